import Apimodel.Basic
import Apimodel.Types
import Apimodel.Num
import Apimodel.PyEq
import Apimodel.Constraints
import Apimodel.Err
import Apimodel.Deser
import Apimodel.ListLemmas
import Apimodel.DeserLemmas
import Apimodel.Spec
import Apimodel.Scopes
import Apimodel.SchemaSer
import Apimodel.Ser
import Apimodel.SerLemmas
import Apimodel.Schema
import Apimodel.SchemaSem
import Apimodel.Versions
import Apimodel.Forest
import Apimodel.Order
import Apimodel.FieldsSet
import Apimodel.Validators
import Apimodel.Cache
import Apimodel.Generated.Wiring
import Apimodel.NoCopyThm
import Apimodel.AcceptThm
import Apimodel.UnionThm
import Apimodel.NoCrashThm
import Apimodel.ErrorsThm
import Apimodel.CoerceThm
import Apimodel.SchemaThm
import Apimodel.EndToEnd
import Apimodel.RoundTripThm
import Apimodel.VersionsThm
import Apimodel.OrderThm
import Apimodel.WiringThm
import Apimodel.RefsThm
import Apimodel.Rec
import Apimodel.ImageThm
import Apimodel.ObjErrorsThm
import Apimodel.UnionSelThm
import Apimodel.AcceptUnionThm
import Apimodel.Generated.Tables
import Apimodel.TablesThm
import Apimodel.Alias
import Apimodel.Conv
import Apimodel.Gql
import Apimodel.SerJsonThm
import Apimodel.CoerceSrc
import Apimodel.Generated.Coerce
import Apimodel.CoerceSrcThm
import Apimodel.UnionSrc
import Apimodel.Generated.UnionSel
import Apimodel.UnionSrcThm
import Apimodel.BExprThm
import Apimodel.OmitSrcThm
import Apimodel.FieldLoopSrcThm
import Apimodel.FieldsSetSrcThm
import Apimodel.OrderSrcThm
import Apimodel.VersionsSrcThm
import Apimodel.ObjTailSrcThm
import Apimodel.RecLockThm
import Apimodel.RecMemoThm
import Apimodel.RecSeq
import Apimodel.RecSoundThm
import Apimodel.RecCompileThm
import Apimodel.RecDepthThm
import Apimodel.RecSpecThm
import Apimodel.GenericsThm
import Apimodel.GenericsCompThm
import Apimodel.GenericsHintsThm
import Apimodel.AggregateThm
import Apimodel.TypedDictKeysThm
import Apimodel.MetaChainThm
import Apimodel.LitCoerceThm
import Apimodel.RawDcThm
import Apimodel.TryShapesThm
import Apimodel.ConstraintsSrcThm
import Apimodel.ErrorsOptThm
import Apimodel.CoerceUnionThm
import Apimodel.RoundTripObjThm
