import Apimodel.Deser
import Apimodel.Ser
import Apimodel.SchemaSem
import Apimodel.Order
import Apimodel.FieldsSet
import Apimodel.Spec
import Apimodel.Scopes
import Apimodel.SchemaSer
import Apimodel.Validators
import Apimodel.Refs
import Apimodel.Versions
import Apimodel.Generics
import Apimodel.Aggregate
import Apimodel.RecSeq
import Apimodel.MetaChain
import Lean.Data.Json
open Lean Api

/-! Line-protocol driver: one JSON request per line, one JSON reply per line. -/

abbrev P := Except String

def arr (j : Json) : P (Array Json) := j.getArr?
def str (j : Json) : P String := j.getStr?
def bool' (j : Json) : P Bool := j.getBool?
def nat' (j : Json) : P Nat := j.getNat?
def intS (j : Json) : P Int := do
  match (← str j).toInt? with | some i => pure i | none => throw "bad int"

def parseRat (s : String) : P Rat := do
  match s.splitOn "/" with
  | [p, q] => match p.toInt?, q.toNat? with
    | some p, some q => pure (mkRat p q)
    | _, _ => throw s!"bad rat {s}"
  | [p] => match p.toInt? with | some p => pure (p : Rat) | none => throw s!"bad rat {s}"
  | _ => throw s!"bad rat {s}"

def parseFlt (j : Json) : P Flt := do
  match ← str j with
  | "nan" => pure .nan | "inf" => pure .pinf | "-inf" => pure .ninf
  | s => pure (.fin (← parseRat s))

partial def parsePy (j : Json) : P Py := do
  let a ← arr j
  match ← str a[0]! with
  | "n" => pure .null
  | "b" => pure (.bool (← bool' a[1]!))
  | "i" => pure (.int (← intS a[1]!))
  | "f" => pure (.float (← parseFlt a[1]!))
  | "s" => pure (.str (← str a[1]!))
  | "l" => pure (.list (← (← arr a[1]!).toList.mapM parsePy))
  | "d" => do
      let kvs ← (← arr a[1]!).toList.mapM (fun kv => do
        let p ← arr kv; pure ((← str p[0]!), (← parsePy p[1]!)))
      pure (.dict kvs)
  | "dn" => do
      let kvs ← (← arr a[1]!).toList.mapM (fun kv => do
        let p ← arr kv; pure ((← parsePy p[0]!), (← parsePy p[1]!)))
      pure (.dictNS kvs)
  | "o" => pure (.other (← str a[1]!))
  | t => throw s!"bad py tag {t}"

def parseNum (j : Json) : P Num := do
  let a ← arr j
  match ← str a[0]! with
  | "i" => pure (.int (← intS a[1]!))
  | "f" => pure (.flt (← parseFlt a[1]!))
  | t => throw s!"bad num tag {t}"

def parseLit (j : Json) : P Lit := do
  let a ← arr j
  match ← str a[0]! with
  | "n" => pure .null
  | "b" => pure (.bool (← bool' a[1]!))
  | "i" => pure (.int (← intS a[1]!))
  | "f" => pure (.float (← parseFlt a[1]!))
  | "s" => pure (.str (← str a[1]!))
  | t => throw s!"bad lit tag {t}"

def optField {α} (j : Json) (k : String) (p : Json → P α) : P (Option α) :=
  match j.getObjVal? k with
  | .ok .null => pure none
  | .ok v => some <$> p v
  | .error _ => pure none

def parsePat (j : Json) : P Pat := do
  let a ← arr j
  match ← str a[0]! with
  | "prefix" => pure (.prefix_ (← str a[1]!))
  | "lower" => pure .lower
  | "anyOf" => pure (.anyOf (← (← arr a[1]!).toList.mapM str))
  | t => throw s!"bad pat {t}"

def parseConstraints (j : Json) : P Constraints := do
  pure {
    min := ← optField j "min" parseNum, max := ← optField j "max" parseNum,
    excMin := ← optField j "exc_min" parseNum, excMax := ← optField j "exc_max" parseNum,
    multOf := ← optField j "mult_of" parseNum,
    minLen := ← optField j "min_len" nat', maxLen := ← optField j "max_len" nat',
    pattern := ← optField j "pattern" parsePat,
    minItems := ← optField j "min_items" nat', maxItems := ← optField j "max_items" nat',
    unique := (← optField j "unique" bool').getD false,
    minProps := ← optField j "min_props" nat', maxProps := ← optField j "max_props" nat' }

partial def parseTy (j : Json) : P Ty := do
  let a ← arr j
  match ← str a[0]! with
  | "none" => pure .null | "bool" => pure .bool | "int" => pure .int | "float" => pure .float
  | "str" => pure .str | "any" => pure .any
  | "list" => pure (.list (← parseTy a[1]!))
  | "set" => pure (.set (← parseTy a[1]!))
  | "frozenset" => pure (.frozenset (← parseTy a[1]!))
  | "vtuple" => pure (.vtuple (← parseTy a[1]!))
  | "tuple" => pure (.tuple (← (← arr a[1]!).toList.mapM parseTy))
  | "mapping" => pure (.mapping (← parseTy a[1]!) (← parseTy a[2]!))
  | "union" => pure (.union (← (← arr a[1]!).toList.mapM parseTy))
  | "literal" => pure (.literal (← (← arr a[1]!).toList.mapM parseLit))
  | "enum" => do
      let ms ← (← arr a[2]!).toList.mapM (fun m => do
        let p ← arr m; pure ((← str p[0]!), (← parseLit p[1]!)))
      pure (.enum (← str a[1]!) ms)
  | "newtype" => pure (.newtype (← str a[1]!) (← parseTy a[2]!))
  | "ann" => pure (.ann (← parseConstraints a[1]!) (← parseTy a[2]!))
  | "obj" => do
      let cj := a[1]!
      let kind ← match ← str (← cj.getObjVal? "kind") with
        | "dataclass" => pure ObjKind.dataclass | "namedtuple" => pure ObjKind.namedTuple
        | "typeddict" => pure ObjKind.typedDict | k => throw s!"bad kind {k}"
      let ci : ClassInfo := { name := ← str (← cj.getObjVal? "name"), kind := kind,
                              raw := ← bool' (← cj.getObjVal? "raw") }
      let fs ← (← arr a[2]!).toList.mapM (fun f => do
        let p ← arr f
        let dflt ← match p[5]! with
          | .null => pure none
          | .str "list" => pure (some Dflt.emptyList)
          | .str "dict" => pure (some Dflt.emptyDict)
          | l => (fun x => some (Dflt.lit x)) <$> parseLit l
        let reqBy ← if p.size > 6 then (← arr p[6]!).toList.mapM str else pure []
        let info : FieldInfo := { name := ← str p[0]!, alias := ← str p[1]!,
                                  required := ← bool' p[2]!, fbod := ← bool' p[3]!, dflt := dflt, requiredBy := reqBy }
        pure (info, ← parseTy p[4]!))
      pure (.obj ci fs)
  | t => throw s!"bad ty tag {t}"

def parseOpts (j : Json) : P DOpts := do
  pure { additionalProperties := ← bool' (← j.getObjVal? "ap"),
         fallBackOnDefault := ← bool' (← j.getObjVal? "fbod"),
         noCopy := ← bool' (← j.getObjVal? "nc"),
         overrideCtor := ← bool' (← j.getObjVal? "octor"),
         coerce := ← bool' (← j.getObjVal? "coerce"),
         quirks := match j.getObjVal? "repaired" with
           | .ok (.bool true) => Quirks.repaired
           | _ => Quirks.current }

def parseJClass (j : Json) : P JClass := do
  match ← str j with
  | "null" => pure .null | "boolean" => pure .bool | "integer" => pure .int | "number" => pure .float
  | "string" => pure .str | "array" => pure .list | "object" => pure .dict
  | s => throw s!"bad class {s}"

partial def parseTyG (j : Json) : P Refs.TyG := do
  let a ← arr j
  match ← str a[0]! with
  | "leaf" => pure .leaf
  | "ref" => pure (.ref (← str a[1]!))
  | "node" => pure (.node (← (← arr a[1]!).toList.mapM parseTyG))
  | t => throw s!"bad tyg {t}"

def parseCEnv (j : Json) : P CoerceEnv := do
  let pairs (k : String) : P (List (Json × Json)) := do
    (← arr (← j.getObjVal? k)).toList.mapM (fun e => do let a ← arr e; pure (a[0]!, a[1]!))
  pure { intOf := ← (← pairs "int").mapM (fun (a, b) => do pure ((← str a), (← intS b))),
         floatOf := ← (← pairs "float").mapM (fun (a, b) => do pure ((← str a), (← parseFlt b))),
         reprOf := ← (← pairs "repr").mapM (fun (a, b) => do pure ((← parseFlt a), (← str b))),
         boolWords := ← (← pairs "words").mapM (fun (a, b) => do pure ((← str a), (← bool' b))),
         litTypes := ← (← pairs "lits").mapM (fun (a, b) => do
            pure ((← (← arr a).toList.mapM parseLit), (← (← arr b).toList.mapM parseJClass))) }

/-! encoders -/
def ratStr (q : Rat) : String := s!"{q.num}/{q.den}"
def fltJson : Flt → Json
  | .fin q => Json.str (ratStr q) | .nan => "nan" | .pinf => "inf" | .ninf => "-inf"
def numJson : Num → Json
  | .int i => Json.arr #["i", toString i]
  | .flt f => Json.arr #["f", fltJson f]
def litJson : Lit → Json
  | .null => Json.arr #["n"] | .bool b => Json.arr #["b", b] | .int i => Json.arr #["i", toString i]
  | .float f => Json.arr #["f", fltJson f] | .str s => Json.arr #["s", s]
def keyJson : Key → Json
  | .idx i => Json.num i
  | .name s => Json.str s
def clsJson (c : Option JClass) : Json := match c with | some c => Json.str c.jsonName | none => Json.null
def ruleJson : Rule → Json
  | .badType e f => Json.arr #["type", e.jsonName, clsJson f]
  | .missing => Json.arr #["missing"]
  | .missingRequiredBy rs => Json.arr #["missing_required_by", Json.arr (rs.map Json.str).toArray]
  | .unexpected => Json.arr #["unexpected"]
  | .minimum n => Json.arr #["minimum", numJson n] | .maximum n => Json.arr #["maximum", numJson n]
  | .exclusiveMinimum n => Json.arr #["exclusive_minimum", numJson n]
  | .exclusiveMaximum n => Json.arr #["exclusive_maximum", numJson n]
  | .multipleOf n => Json.arr #["multiple_of", numJson n]
  | .minLength n => Json.arr #["min_length", n] | .maxLength n => Json.arr #["max_length", n]
  | .pattern p => Json.arr #["pattern", p]
  | .minItems n => Json.arr #["min_items", n] | .maxItems n => Json.arr #["max_items", n]
  | .uniqueItems => Json.arr #["unique_items"]
  | .minProperties n => Json.arr #["min_properties", n] | .maxProperties n => Json.arr #["max_properties", n]
  | .oneOf vs => Json.arr #["one_of", Json.arr (vs.map litJson).toArray]
  | .custom m => Json.arr #["custom", m]

def errsJson (es : Errs) : Json :=
  Json.arr (es.map (fun pr => Json.arr #[Json.arr (pr.1.map keyJson).toArray, ruleJson pr.2])).toArray

partial def valJson : Val → Json
  | .null => Json.arr #["n"]
  | .bool b => Json.arr #["b", b]
  | .int i => Json.arr #["i", toString i]
  | .float f => Json.arr #["f", fltJson f]
  | .str s => Json.arr #["s", s]
  | .list xs => Json.arr #["l", Json.arr (xs.map valJson).toArray]
  | .tuple xs => Json.arr #["t", Json.arr (xs.map valJson).toArray]
  | .set xs => Json.arr #["set", Json.arr (xs.map valJson).toArray]
  | .frozenset xs => Json.arr #["fset", Json.arr (xs.map valJson).toArray]
  | .dict kvs => Json.arr #["d", Json.arr (kvs.map (fun kv => Json.arr #[valJson kv.1, valJson kv.2])).toArray]
  | .obj c fs => Json.arr #["obj", c, Json.arr (fs.map (fun kv => Json.arr #[Json.str kv.1, valJson kv.2])).toArray]
  | .ntuple c fs => Json.arr #["obj", c, Json.arr (fs.map (fun kv => Json.arr #[Json.str kv.1, valJson kv.2])).toArray]
  | .enumMember c m => Json.arr #["enum", c, m]
  | .other c => Json.arr #["o", c]

partial def pyJson : Py → Json
  | .null => Json.arr #["n"]
  | .bool b => Json.arr #["b", b]
  | .int i => Json.arr #["i", toString i]
  | .float f => Json.arr #["f", fltJson f]
  | .str s => Json.arr #["s", s]
  | .list xs => Json.arr #["l", Json.arr (xs.map pyJson).toArray]
  | .dict kvs => Json.arr #["d", Json.arr (kvs.map (fun kv => Json.arr #[Json.str kv.1, pyJson kv.2])).toArray]
  | .dictNS kvs => Json.arr #["dn", Json.arr (kvs.map (fun kv => Json.arr #[pyJson kv.1, pyJson kv.2])).toArray]
  | .other c => Json.arr #["o", c]

def outcomePyJson : Outcome Py → Json
  | .ok v => Json.mkObj [("ok", pyJson v)]
  | .invalid e => Json.mkObj [("invalid", errsJson e.flatten)]
  | .crash c => Json.mkObj [("crash", c)]

def parseSOpts (j : Json) : P SOpts := do
  pure { excludeNone := ← bool' (← j.getObjVal? "exclude_none"),
         excludeDefaults := ← bool' (← j.getObjVal? "exclude_defaults"),
         additionalProperties := ← bool' (← j.getObjVal? "ap") }

def parseOrd (j : Json) : P Ordering' := do
  let a ← arr j
  match ← str a[0]! with
  | "none" => pure .none
  | "value" => pure (.value (← intS a[1]!))
  | "after" => pure (.after (← str a[1]!))
  | "before" => pure (.before (← str a[1]!))
  | t => throw s!"bad ordering {t}"

partial def parseGTy (j : Json) : P Generics.GTy := do
  let a ← arr j
  match ← str a[0]! with
  | "v" => pure (.var (← str a[1]!))
  | "c" => pure (.con (← str a[1]!))
  | "app" => pure (.app (← str a[1]!) (← (← arr a[2]!).toList.mapM parseGTy))
  | t => throw s!"bad generic term {t}"

def parseGClass (j : Json) : P Generics.GClass := do
  pure { name := ← str (← j.getObjVal? "name"),
         params := ← (← arr (← j.getObjVal? "params")).toList.mapM str,
         baseArgs := ← (← arr (← j.getObjVal? "base_args")).toList.mapM parseGTy,
         fields := ← (← arr (← j.getObjVal? "fields")).toList.mapM (fun f => do
           let a ← arr f; pure ((← str a[0]!), (← parseGTy a[1]!))) }

def outcomeJson : Outcome Val → Json
  | .ok v => Json.mkObj [("ok", valJson v)]
  | .invalid e => Json.mkObj [("invalid", errsJson e.flatten), ("mixed", mixedKeys e.children)]
  | .crash c => Json.mkObj [("crash", c)]

def handle (line : String) : String :=
  match Json.parse line with
  | .error e => (Json.mkObj [("error", s!"parse: {e}")]).compress
  | .ok j =>
    let r : P Json := do
      let id ← j.getObjVal? "id"
      match ← str (← j.getObjVal? "op") with
      | "deser" => do
          let o ← parseOpts (← j.getObjVal? "opts")
          let cs ← match j.getObjVal? "schema" with
            | .ok v => parseConstraints v | .error _ => pure {}
          let ty ← parseTy (← j.getObjVal? "ty")
          let d ← parsePy (← j.getObjVal? "d")
          match j.getObjVal? "cenv" with
          | .ok ce => do
              let env ← parseCEnv ce
              pure (Json.mkObj [("id", id), ("model", outcomeJson (deserializeC o env cs ty d)),
                                ("strict", outcomeJson (deserialize o cs ty d))])
          | .error _ =>
          let inE := ty.efrag && ty.acc && ty.nouq && d.json
          pure (Json.mkObj [("id", id), ("model", outcomeJson (deserialize o cs ty d)),
                            ("conforms", conforms o.additionalProperties o.fallBackOnDefault cs ty d),
                            ("scope", Json.mkObj [("acc", ty.acc), ("accu", ty.accU), ("good", d.good), ("nouq", ty.nouq), ("efrag", ty.efrag),
                               ("scope", ty.scope), ("sch", ty.sch), ("cfrag", ty.cfrag), ("nofloat", ty.noFloat),
                               ("json", d.json), ("jsonx", d.jsonX), ("wf", d.wf), ("sane", d.sane)]),
                            ("violations", if inE then errsJson (violations cs ty d) else Json.null),
                            ("image", if ty.efrag && ty.scope then valJson (image ty d) else Json.null)])
      | "roundtrip" => do
          let o ← parseOpts (← j.getObjVal? "opts")
          let so ← parseSOpts (← j.getObjVal? "sopts")
          let ty ← parseTy (← j.getObjVal? "ty")
          let d ← parsePy (← j.getObjVal? "d")
          let r := deserialize o {} ty d
          let s := match r with
            | .ok v => outcomePyJson (serialize so ty v)
            | _ => Json.null
          pure (Json.mkObj [("id", id), ("model", outcomeJson r), ("ser", s)])
      | "schema" => do
          let ap ← bool' (← j.getObjVal? "ap")
          let ty ← parseTy (← j.getObjVal? "ty")
          let sch ← match j.getObjVal? "so" with
            | .ok sj => do pure (buildS (← parseSOpts sj) ap ty)
            | .error _ => pure (buildD ap ty)
          let ds ← (← arr (← j.getObjVal? "data")).toList.mapM parsePy
          pure (Json.mkObj [("id", id), ("schema", pyJson sch.toPy),
                            ("valid", Json.arr (ds.map (fun d => Json.bool (validates sch d))).toArray)])
      | "schema07" => do
          let ap ← bool' (← j.getObjVal? "ap")
          let keeps ← bool' (← j.getObjVal? "keeps_prefix_items")
          let ty ← parseTy (← j.getObjVal? "ty")
          let s07 := to07 { keepsPrefixItems := keeps } (buildD ap ty)
          let ds ← (← arr (← j.getObjVal? "data")).toList.mapM parsePy
          pure (Json.mkObj [("id", id), ("schema", pyJson s07.toPy),
                            ("valid", Json.arr (ds.map (fun d => Json.bool (v07 s07 d))).toArray)])
      | "order" => do
          let elts ← (← arr (← j.getObjVal? "elts")).toList.mapM (fun e => do
            let p ← arr e; pure ({ name := ← str p[0]!, ord := ← parseOrd p[1]! } : Elt))
          let ov ← (← arr (← j.getObjVal? "overriding")).toList.mapM (fun e => do
            let p ← arr e; pure ((← str p[0]!), (← parseOrd p[1]!)))
          let es := elts.map (effective ov)
          pure (Json.mkObj [("id", id), ("order", Json.arr ((sortByOrder es).map (fun e => Json.str e.name)).toArray),
                            ("anchored", anchored es)])
      | "fieldsset" => do
          let cj ← j.getObjVal? "cls"
          let strs (k : String) : P (List String) := do (← arr (← cj.getObjVal? k)).toList.mapM str
          let c : FSClass := { params := ← strs "params", initVars := ← strs "init_vars",
                               initVarsWithDefault := ← strs "init_vars_default", postInit := ← strs "post_init" }
          let ops ← (← arr (← j.getObjVal? "ops")).toList.mapM (fun oj => do
            let a ← arr oj
            match ← str a[0]! with
            | "construct" => pure (FSOp.construct (← nat' a[1]!) (← (← arr a[2]!).toList.mapM str))
            | "setattr" => pure (FSOp.setattr (← str a[1]!))
            | "set_fields" => pure (FSOp.setFields (← (← arr a[1]!).toList.mapM str) (← bool' a[2]!))
            | "unset_fields" => pure (FSOp.unsetFields (← (← arr a[1]!).toList.mapM str))
            | "replace" => pure (FSOp.replace (← (← arr a[1]!).toList.mapM str))
            | t => throw s!"bad fs op {t}")
          -- states after each operation
          let states := (ops.foldl (fun (acc : FSet × List FSet) op =>
            let s' := step c acc.1 op; (s', acc.2 ++ [s'])) ([], [])).2
          pure (Json.mkObj [("id", id), ("states", Json.arr (states.map (fun s => Json.arr (s.map Json.str).toArray)).toArray)])
      | "validate" => do
          let vs ← (← arr (← j.getObjVal? "vs")).toList.mapM (fun vj => do
            let a ← arr vj
            let fld ← match a[3]! with
              | Json.null => pure Option.none
              | f => do pure (some (Key.name (← str f)))
            pure ({ id := ← nat' a[0]!, deps := ← (← arr a[1]!).toList.mapM str,
                    discard := ← (← arr a[2]!).toList.mapM str, field := fld,
                    fails := ← bool' a[4]!, err := .mk [.custom (← str a[5]!)] [] } : Validators.Vd))
          let current ← bool' (← j.getObjVal? "current")
          if current && Validators.loops [] vs then
            pure (Json.mkObj [("id", id), ("crash", "RecursionError")])
          else
            let r := Validators.validate [] vs Option.none
            pure (Json.mkObj [("id", id), ("ran", Json.arr (r.ran.map (fun (n : Nat) => (n : Json))).toArray),
                              ("errs", match r.err with
                                 | some e => errsJson e.flatten | Option.none => Json.null)])
      | "refs" => do
          let env ← (← arr (← j.getObjVal? "env")).toList.mapM (fun e => do
            let a ← arr e; pure ((← str a[0]!), (← parseTyG a[1]!)))
          let root ← parseTyG (← j.getObjVal? "root")
          let allRefs ← bool' (← j.getObjVal? "all_refs")
          let out := Refs.schema env root allRefs
          let refsJ (o : Option Refs.SchG) : Json := match o with
            | some s => Json.arr ((Refs.refsOf s).map Json.str).toArray
            | Option.none => Json.null
          pure (Json.mkObj [("id", id), ("main", refsJ out.main),
                            ("defs", Json.arr (out.defs.map (fun p => Json.arr #[Json.str p.1, refsJ p.2])).toArray),
                            ("counts", Json.arr ((Refs.extract env root).map (fun p => Json.arr #[Json.str p.1, (p.2 : Nat)])).toArray)])
      | "generic" => do
          let chain ← (← arr (← j.getObjVal? "chain")).toList.mapM parseGClass
          let args ← (← arr (← j.getObjVal? "args")).toList.mapM parseGTy
          let fj (fs : List (String × String)) : Json := Json.arr (fs.map (fun p => Json.arr #[Json.str p.1, Json.str p.2])).toArray
          let res := Generics.resolveChain chain args
          pure (Json.mkObj [("id", id), ("fields", fj (Generics.renderFields (Generics.resolveHints chain args))),
                            ("first_wins", fj (Generics.renderFields (Generics.hintsOfFirstWins res))),
                            ("appearance_order", fj (Generics.renderFields (Generics.resolveChainOld chain args))),
                            ("wf", Generics.chainWf chain), ("closed", res.all (fun p => Generics.closed p.2))])
      | "aggattr" => do
          let strs (x : Json) : P (List String) := do (← arr x).toList.mapM str
          let spec : Agg.Spec := { aliases := ← strs (← j.getObjVal? "aliases"),
                                   flattened := ← (← arr (← j.getObjVal? "flattened")).toList.mapM strs,
                                   additional := ← bool' (← j.getObjVal? "additional") }
          -- a pattern is given by the keys of the datum it matches (computed by Python's `re`)
          let pats ← (← arr (← j.getObjVal? "patterns")).toList.mapM strs
          let keys ← strs (← j.getObjVal? "keys")
          let a := Agg.attrib spec (pats.map (fun ms => fun k => ms.contains k)) keys
          let ll (xs : List (List String)) : Json := Json.arr (xs.map (fun g => Json.arr (g.map Json.str).toArray)).toArray
          pure (Json.mkObj [("id", id), ("flattened", ll a.flattened), ("matched", ll a.matched),
                            ("additional", match a.additional with | some g => Json.arr (g.map Json.str).toArray | Option.none => Json.null),
                            ("unexpected", Json.arr (a.unexpected.map Json.str).toArray)])
      | "metachain" => do
          let pairs (x : Json) : P (List (String × String)) := do (← arr x).toList.mapM (fun p => do let a ← arr p; pure ((← str a[0]!), (← str a[1]!)))
          let fm ← pairs (← j.getObjVal? "field")
          let annos ← (← arr (← j.getObjVal? "annos")).toList.mapM pairs
          let key ← str (← j.getObjVal? "key")
          pure (Json.mkObj [("id", id), ("value", match Meta.fullMetadata fm annos key with | some v => Json.str v | Option.none => Json.null)])
      | "rec" => do
          let g ← (← arr (← j.getObjVal? "graph")).toList.mapM (fun e => do
            let a ← arr e; pure ((← nat' a[0]!), (← (← arr a[1]!).toList.mapM nat')))
          let starts ← (← arr (← j.getObjVal? "starts")).toList.mapM nat'
          let fuel ← nat' (← j.getObjVal? "fuel")
          let cj (c : Rec.Cache) : Json := Json.arr (c.map (fun p => Json.arr #[(p.1 : Nat), Json.bool p.2])).toArray
          -- the consumer: after each call of the history, is the method of that type compiled within the bound (2 |g| + 10 nested visits)?
          let comp ← match j.getObjVal? "compile" with
            | .ok (Json.bool true) => pure true
            | _ => pure false
          let objs ← match j.getObjVal? "objects" with
            | .ok o => do pure (some (← (← arr o).toList.mapM nat'))
            | _ => pure Option.none
          let compiled (st : Rec.Graph → Rec.Cache → Rec.Local → Rec.Cache × Rec.Local) : Json :=
            if comp then
              Json.arr ((starts.foldl (fun (acc : Rec.Cache × List Json) n =>
                let c' := Rec.analyseSeq st g fuel acc.1 n
                (c', acc.2 ++ [Json.bool (match objs with
                  | some os => (Rec.compileF g os c' (3 * g.length + 10) [] true n).isSome
                  | Option.none => (Rec.compileDepth g c' (2 * g.length + 10) [] n).isSome)])) ([], [])).2).toArray
            else Json.null
          pure (Json.mkObj [("id", id), ("fixed", cj (Rec.history Rec.step g fuel starts)),
                            ("early", cj (Rec.history Rec.stepEarly g fuel starts)),
                            ("compiled_fixed", compiled Rec.step), ("compiled_early", compiled Rec.stepEarly),
                            ("on_cycle", Json.arr (((g.map (·.1)).filter (Rec.onCycleB g)).map (fun (n : Nat) => (n : Json))).toArray)])
      | op => throw s!"unknown op {op}"
    match r with
    | .ok j => j.compress
    | .error e => (Json.mkObj [("error", e)]).compress

partial def loop (i o : IO.FS.Stream) : IO Unit := do
  let line ← i.getLine
  if line.isEmpty then return ()
  o.putStrLn (handle line)
  loop i o

def main : IO Unit := do loop (← IO.getStdin) (← IO.getStdout)
