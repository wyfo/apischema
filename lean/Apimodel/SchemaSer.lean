import Apimodel.Schema
/-!
# The schema of the serialized form (`SerializationSchemaBuilder`)
-/
namespace Api

/-- `ObjectField.skippable(exclude_defaults, exclude_none)` (no skip metadata, no `Undefined`) -/
def skippable (so : SOpts) (f : FieldInfo) (t : Ty) : Bool :=
  (f.dflt.isSome && so.excludeDefaults) || (so.excludeNone && t.isOptionalUnion)

/-- `required` of a property in the serialization schema: a TypedDict key keeps its declared requiredness -/
def reqS (so : SOpts) (td : Bool) (f : FieldInfo) (t : Ty) : Bool :=
  -- (repair of row 42: a TypedDict key that can be skipped is not required either)
  (f.required || !td) && !skippable so f t

-- `SerializationSchemaBuilder.visit`: as `buildD`, with `required = not skippable`
mutual
def buildS (so : SOpts) (ap : Bool) : Ty → Sch
  | .null => .ofType .null | .bool => .ofType .boolean | .int => .ofType .integer
  | .float => .ofType .number | .str => .ofType .string
  | .any => .empty
  | .list t => .mk [.array] none [] {} (subKw (buildS so ap t)) none [] [] none [] [] none
  | .vtuple t => .mk [.array] none [] {} (subKw (buildS so ap t)) none [] [] none [] [] none
  | .set t => .mk [.array] none [] { unique := true } (subKw (buildS so ap t)) none [] [] none [] [] none
  | .frozenset t => .mk [.array] none [] { unique := true } (subKw (buildS so ap t)) none [] [] none [] [] none
  | .tuple ts => .mk [.array] none [] { minItems := some ts.length, maxItems := some ts.length }
      (some (.inl false)) (some (buildSL so ap ts)) [] [] none [] [] none
  | .mapping k v => mappingSchema (buildS so ap k) (buildS so ap v)
  | .union ts => unionSchema (buildSL so ap ts)
  | .literal vs => literalSchema vs
  | .enum _ ms => literalSchema (ms.map (·.2))
  | .newtype _ t => buildS so ap t
  | .ann c t => mergeInto c (buildS so ap t)
  | .obj ci fs => .mk [.object] none [] {} none none (buildSF so ap (ci.kind == .typedDict) fs)
      (requiredS so (ci.kind == .typedDict) fs) (apKw ap) [] [] none
termination_by structural t => t
def buildSL (so : SOpts) (ap : Bool) : List Ty → List Sch
  | [] => []
  | t :: ts => buildS so ap t :: buildSL so ap ts
termination_by structural ts => ts
def buildSF (so : SOpts) (ap : Bool) (td : Bool) : List (FieldInfo × Ty) → List (String × Sch)
  | [] => []
  | (f, t) :: fs => (f.alias, fieldSchema { f with required := reqS so td f t } t (buildS so ap t)) :: buildSF so ap td fs
termination_by structural fs => fs
def requiredS (so : SOpts) (td : Bool) : List (FieldInfo × Ty) → List String
  | [] => []
  | (f, t) :: fs => (if reqS so td f t then [f.alias] else []) ++ requiredS so td fs
termination_by structural fs => fs
end

end Api
