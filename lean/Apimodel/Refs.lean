/-!
# C17: reference extraction and `$defs` on type graphs

A type graph is an environment of named bodies plus a root tree; `ref n` is an occurrence of the named
type `n` (a dataclass, a NewType, an enum with a `type_name`), `node` any constructor with children
(containers, unions, the field list of a class).
-/
namespace Api.Refs

inductive TyG where
  | leaf
  | ref (n : String)
  | node (kids : List TyG)
  deriving Repr, Inhabited

abbrev Env := List (String × TyG)
def body (e : Env) (n : String) : TyG :=
  match e.find? (fun p => p.1 == n) with | some p => p.2 | none => .leaf

abbrev Counts := List (String × Nat)
def count : Counts → String → Nat
  | [], _ => 0
  | (k, c) :: r, n => if k = n then c else count r n
/-- `refs[ref] = (cls, count + 1)`; a new name goes to the end (dict insertion order) -/
def incr : Counts → String → Counts
  | [], n => [(n, 1)]
  | (k, c) :: r, n => if k = n then (k, c + 1) :: r else (k, c) :: incr r n

mutual
def walk (onRef : String → Counts → Counts) : TyG → Counts → Counts
  | .leaf, r => r
  | .ref n, r => onRef n r
  | .node ks, r => walkL onRef ks r
termination_by structural t => t
def walkL (onRef : String → Counts → Counts) : List TyG → Counts → Counts
  | [], r => r
  | k :: ks, r => walkL onRef ks (walk onRef k r)
termination_by structural ks => ks
end

/-- `RefsExtractor.visit_conversion` on a named type: count the occurrence; descend only the first time -/
def visitN (e : Env) : Nat → String → Counts → Counts
  | 0, n, r => incr r n
  | k+1, n, r => if count r n > 0 then incr r n else walk (visitN e k) (body e n) (incr r n)

def extract (e : Env) (root : TyG) : Counts := walk (visitN e e.length) root []

/-- `_extract_refs`: every counted name with `all_refs`, else those met more than once -/
def selected (allRefs : Bool) (r : Counts) : List String :=
  (r.map (·.1)).filter (fun n => allRefs || count r n > 1)

inductive SchG where
  | leaf
  | ref (n : String)
  | node (kids : List SchG)
  deriving Repr, Inhabited

mutual
def buildT (onRef : String → Option SchG) : TyG → Option SchG
  | .leaf => some .leaf
  | .ref n => onRef n
  | .node ks => (buildTL onRef ks).map .node
termination_by structural t => t
def buildTL (onRef : String → Option SchG) : List TyG → Option (List SchG)
  | [] => some []
  | k :: ks => match buildT onRef k, buildTL onRef ks with
    | some s, some ss => some (s :: ss)
    | _, _ => none
termination_by structural ks => ks
end

/-- `SchemaBuilder` on a named type: a `$ref` when it has a definition, its body inlined otherwise;
    `none` = out of fuel (the real builder would recurse forever) -/
def buildN (sel : List String) (e : Env) : Nat → String → Option SchG
  | 0, n => if sel.contains n then some (.ref n) else none
  | k+1, n => if sel.contains n then some (.ref n) else buildT (buildN sel e k) (body e n)

structure Output where
  main : Option SchG
  defs : List (String × Option SchG)
  deriving Repr

/-- `deserialization_schema(root, all_refs=…)`: main schema + `$defs` (each definition is the body of the
    name, built with the same reference set: `ignore_first_ref`) -/
def schema (e : Env) (root : TyG) (allRefs : Bool) : Output :=
  let sel := selected allRefs (extract e root)
  let fuel := (extract e root).length + 1
  { main := buildT (buildN sel e fuel) root,
    defs := sel.map (fun n => (n, buildT (buildN sel e fuel) (body e n))) }

mutual
def refsOf : SchG → List String
  | .leaf => []
  | .ref n => [n]
  | .node ks => refsOfL ks
termination_by structural s => s
def refsOfL : List SchG → List String
  | [] => []
  | k :: ks => refsOf k ++ refsOfL ks
termination_by structural ks => ks
end

theorem buildTL_cons_eq_some {onRef : String → Option SchG} {k : TyG} {ks : List TyG} {ss : List SchG} :
    buildTL onRef (k :: ks) = some ss ↔ ∃ s ss', buildT onRef k = some s ∧ buildTL onRef ks = some ss' ∧ s :: ss' = ss := by
  rw [buildTL]
  cases buildT onRef k <;> cases buildTL onRef ks <;> simp

mutual
theorem buildT_refs {sel : List String} {onRef : String → Option SchG}
    (h : ∀ n s, onRef n = some s → ∀ m ∈ refsOf s, m ∈ sel) :
    ∀ (t : TyG) (s : SchG), buildT onRef t = some s → ∀ m ∈ refsOf s, m ∈ sel
  | .leaf, s, hs, m, hm => by rw [buildT] at hs; cases hs; cases hm
  | .ref n, s, hs, m, hm => by rw [buildT] at hs; exact h n s hs m hm
  | .node ks, s, hs, m, hm => by
    rw [buildT] at hs
    obtain ⟨ss, hl, rfl⟩ := Option.map_eq_some_iff.1 hs
    exact buildTL_refs h ks ss hl m hm
theorem buildTL_refs {sel : List String} {onRef : String → Option SchG}
    (h : ∀ n s, onRef n = some s → ∀ m ∈ refsOf s, m ∈ sel) :
    ∀ (ks : List TyG) (ss : List SchG), buildTL onRef ks = some ss → ∀ m ∈ refsOfL ss, m ∈ sel
  | [], ss, hs, m, hm => by rw [buildTL] at hs; cases hs; cases hm
  | k :: ks, ss, hs, m, hm => by
    obtain ⟨s, ss', h1, h2, rfl⟩ := buildTL_cons_eq_some.1 hs
    rw [refsOfL, List.mem_append] at hm
    exact hm.elim (buildT_refs h k s h1 m) (buildTL_refs h ks ss' h2 m)
end

theorem buildN_of_sel {sel : List String} {e : Env} {n : String} (h : sel.contains n = true) :
    ∀ k, buildN sel e k n = some (.ref n)
  | 0 | _+1 => by rw [buildN, if_pos h]

theorem buildN_refs (sel : List String) (e : Env) : ∀ (k : Nat) (n : String) (s : SchG),
    buildN sel e k n = some s → ∀ m ∈ refsOf s, m ∈ sel
  | k, n, s, hs, m, hm => by
    by_cases hc : sel.contains n = true
    · rw [buildN_of_sel hc] at hs
      cases hs; cases List.mem_singleton.1 hm; exact List.contains_iff_mem.1 hc
    · match k with
      | 0 => rw [buildN, if_neg hc] at hs; cases hs
      | k+1 => rw [buildN, if_neg hc] at hs; exact buildT_refs (buildN_refs sel e k) _ s hs m hm

theorem schema_defs_keys (e : Env) (root : TyG) (allRefs : Bool) :
    (schema e root allRefs).defs.map (·.1) = selected allRefs (extract e root) := by
  simp [schema, Function.comp_def]

/-- **C17 (closed).** Every `$ref` of the main schema and of every definition has a definition. -/
theorem C17_closed (e : Env) (root : TyG) (allRefs : Bool) :
    let out := schema e root allRefs
    let keys := out.defs.map (·.1)
    (∀ s, out.main = some s → ∀ m ∈ refsOf s, m ∈ keys) ∧
    (∀ p ∈ out.defs, ∀ s, p.2 = some s → ∀ m ∈ refsOf s, m ∈ keys) := by
  intro out keys
  have hk : keys = selected allRefs (extract e root) := schema_defs_keys e root allRefs
  rw [hk]
  refine ⟨buildT_refs (buildN_refs _ e _) root, fun p hp => ?_⟩
  obtain ⟨n, _, rfl⟩ := List.mem_map.1 hp
  exact buildT_refs (buildN_refs _ e _) _

end Api.Refs
