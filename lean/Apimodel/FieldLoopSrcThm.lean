import Apimodel.FieldLoopSrc
import Apimodel.Generated.FieldLoop
import Apimodel.BExprThm
/-! Source tie of the field loop of `ObjectMethod.deserialize` (C01, C02, C03): the chain regenerated from the working tree
(`Generated/FieldLoop.lean`), interpreted for one field, is the model's `stepField`, with the `dependent_required` error where the model's
`depViolated` / `depMissing` put it. -/
namespace Api
open BExpr

/-- the model's step, with the `missing property (required by ...)` error of an absent, non-required field at the place the source adds it -/
def stepFieldD (f : FieldInfo) (fbod : Bool) (r : Option (Outcome Val)) (reqBy : List String) (rest : FAcc) : FAcc :=
  match r with
  | Option.none =>
      if !f.required && !f.requiredBy.isEmpty && !reqBy.isEmpty
      then { rest with errs := setChild (.name f.alias) (.leaf (.missingRequiredBy reqBy)) rest.errs }
      else stepField f fbod Option.none rest
  | some x => stepField f fbod (some x) rest

theorem fieldLoop_covered (f : FieldInfo) (fbod p : Bool) (reqBy : List String) :
    chainCovered Generated.fieldLoop (loopTbl f fbod p reqBy) = true := by
  simp only [bexpr, String.reduceEq, chainCovered, loopTbl, Generated.fieldLoop]

/-- C01 / C02 (source tie): the if / elif chain of the field loop is the model's step -/
theorem fieldLoop_matches_source (f : FieldInfo) (fbod : Bool) (r : Option (Outcome Val)) (reqBy : List String) (rest : FAcc) :
    stepFieldSrc Generated.fieldLoop f fbod r reqBy rest = stepFieldD f fbod r reqBy rest := by
  simp only [bexpr, String.reduceEq, stepFieldSrc, runAction, Generated.fieldLoop, loopTbl]
  cases r with
  | none => cases hr : f.required <;> simp [stepFieldD, stepField, hr]
  | some x => cases x <;> simp [stepFieldD, stepField]

theorem fieldLoopSimple_covered (f : FieldInfo) (fbod p : Bool) (reqBy : List String) :
    chainCovered Generated.fieldLoopSimple (loopTbl f fbod p reqBy) = true := by
  simp only [bexpr, String.reduceEq, chainCovered, loopTbl, Generated.fieldLoopSimple]

/-- C08 (source tie): the loop of `SimpleObjectMethod.deserialize` (selected only without fall-back and without `dependent_required`) gives the
errors, the count and the crash of the model's step; the values are not stored (the constructor receives the data) -/
theorem fieldLoopSimple_matches_source (f : FieldInfo) (r : Option (Outcome Val)) (reqBy : List String) (rest : FAcc) :
    let s := stepFieldSrc Generated.fieldLoopSimple f false r reqBy rest
    let m := stepField f false r rest
    s.errs = m.errs ∧ s.count = m.count ∧ s.crash = m.crash := by
  simp only [bexpr, String.reduceEq, stepFieldSrc, runAction, Generated.fieldLoopSimple, loopTbl]
  cases r with
  | none => simp [stepField]
  | some x => cases x <;> simp [stepField]

theorem requiredBy_ne_of_requiringPresent {f : FieldInfo} {kvs : List (String × Py)} (h : (requiringPresent f kvs).isEmpty = false) :
    f.requiredBy.isEmpty = false := by
  cases hq : f.requiredBy with
  | nil => rw [requiringPresent_nil hq] at h; simp at h
  | cons a l => rfl

/-- C02 (source tie): run on the data, the chain adds the `required by` error exactly on the fields the model calls `depViolated`, with the
names the model computes, and is `stepField` otherwise -/
theorem fieldLoop_dep (f : FieldInfo) (fbod : Bool) (kvs : List (String × Py)) (m : Py → Outcome Val) (rest : FAcc) :
    stepFieldSrc Generated.fieldLoop f fbod ((lookupKey kvs f.alias).map m) (requiringPresent f kvs) rest =
      if depViolated f kvs
      then { rest with errs := setChild (.name f.alias) (.leaf (.missingRequiredBy (requiringPresent f kvs))) rest.errs }
      else stepField f fbod ((lookupKey kvs f.alias).map m) rest := by
  rw [fieldLoop_matches_source]
  cases hl : lookupKey kvs f.alias with
  | some d => simp [stepFieldD, depViolated, hl]
  | none =>
      cases hr : f.required <;> cases hb : (requiringPresent f kvs).isEmpty
      · have := requiredBy_ne_of_requiringPresent hb
        simp [stepFieldD, depViolated, hl, hr, hb, this]
      all_goals simp [stepFieldD, depViolated, hl, hr, hb]

end Api
