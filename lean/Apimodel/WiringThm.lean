import Apimodel.Generated.Wiring
import Apimodel.Cache
/-!
# C09: the generated wiring table against the abstract machine

`Cache.C09` needs every mutation in a history to be `SafeOp`.  The mutation points of the package
are enumerated here from the generated table; the ones whose path does not reset are computed (`unreset`)
and compared with the hand-written list of points known not to reset (`knownUnreset`, empty).  A new
unreset point changes the generated table, and `no_unreset_path` fails to check.
-/
namespace Api.Wiring
open Api.Generated

/-- module-level state taken not to be configuration read by cached computations: a list reviewed by hand and trusted (of these
    the histories of the correspondence run mutate `_cached` only, through `set_size`) -/
def notConfiguration : List (String × String) :=
  [("apischema.cache", "_cached"),                      -- the cache list itself
   ("apischema.fields", "_fields_set_classes"),         -- read by `support_fields_set` while a serialization method is built, and stored in it: trusted to be complete by then
   ("apischema.graphql.interfaces", "_interfaces"),     -- read when a GraphQL schema is built (not cached)
   ("apischema.graphql.relay.global_identification", "_tmp_nodes"),
   ("apischema.graphql.relay.global_identification", "_nodes"),
   ("apischema.validation.dependencies", "cache")]      -- keyed by function object (the value also depends on the class the function is looked up in)

/-- (kind, name) of every mutation path that does not reach `cache.reset()` -/
def unreset : List (String × String) :=
  (dictMutators.filter (fun m => !m.2)).map (fun m => ("CacheAwareDict", m.1))
  ++ (settingsClasses.filter (fun s => !s.2.1)).map (fun s => ("settings", s.1))
  ++ ((registries.filter (fun r => r.2.2 == "" && !notConfiguration.contains (r.1, r.2.1))).map
        (fun r => ("registry", r.1 ++ "." ++ r.2.1)))
  ++ (nestedMutations.map (fun n => ("nested", n.1 ++ "." ++ n.2.1))).eraseDups
  ++ (if resetClearsAll && cacheRegisters then [] else [("cache", "reset")])
  ++ (if setSizeReregisters then [] else [("cache", "set_size")])

/-- The mutation paths known not to reset: none.  Rows 12, 36 and 37 of DESIGN section 6 (`__delitem__`, `settings.errors`,
    `settings.base_schema`, `_schemas`; in-place mutation of a value stored in a wrapped registry, KF36; `set_size`) are
    repaired: if one of them comes back the generated table changes and `no_unreset_path` fails to check. -/
def knownUnreset : List (String × String) := []

/-- The one evaluation of the registry table (its string columns); `no_unreset_path` and `wired` read their statements
    about the registries off it. -/
theorem registries_classified :
    registries.all (fun r => r.2.2 == "CacheAwareDict" || (r.2.2 == "" && notConfiguration.contains (r.1, r.2.1))) = true := by
  decide +kernel

/-- **every mutation path of the configuration resets the caches**: the table the translator reads from the source lists
    no path without a reset (if one appears - a new registry, an in-place mutation, a settings class without the
    metaclass - the generated table changes and this fails to check) -/
theorem no_unreset_path : unreset = [] := by
  have hreg : registries.filter (fun r => r.2.2 == "" && !notConfiguration.contains (r.1, r.2.1)) = [] := by
    rw [List.filter_eq_nil_iff]
    intro r hr
    have := List.all_eq_true.1 registries_classified r hr
    simp only [Bool.or_eq_true, Bool.and_eq_true, beq_iff_eq] at this
    rcases this with h | ⟨_, h⟩
    · simp [h]
    · rw [h]; simp
  -- the other parts of `unreset` turn on the Boolean columns of the table
  rw [unreset, hreg]
  rfl

theorem unreset_are_known : unreset.all knownUnreset.contains = true := by rw [no_unreset_path]; rfl

/-- what `SafeOp` asks of the package, read off the table: every registry is wrapped in `CacheAwareDict` or on the reviewed
    list `notConfiguration`, the wrapper's mutators and the settings classes reset, `reset()` clears every registered cache -/
theorem wired :
    (registries.all fun r => r.2.2 == "CacheAwareDict" || notConfiguration.contains (r.1, r.2.1)
                              || knownUnreset.contains ("registry", r.1 ++ "." ++ r.2.1)) = true
    ∧ (dictMutators.all fun m => m.2 || knownUnreset.contains ("CacheAwareDict", m.1)) = true
    ∧ (settingsClasses.all fun s => s.2.1 || knownUnreset.contains ("settings", s.1)) = true
    ∧ resetClearsAll = true ∧ cacheRegisters = true := by
  refine ⟨?_, rfl, rfl, rfl, rfl⟩
  rw [List.all_eq_true]
  intro r hr
  have := List.all_eq_true.1 registries_classified r hr
  simp only [Bool.or_eq_true, Bool.and_eq_true] at this ⊢
  rcases this with h | ⟨_, h⟩
  · exact .inl (.inl h)
  · exact .inl (.inr h)

end Api.Wiring
