/-!
# C09: caches never go stale — abstract machine

`Point`s are the places where configuration can be changed (one per (registry, mutator) and per
(settings class, attribute)); `Query`s are observations (`deserialize(T, d)`, `serialize`, schemas).
The wiring (`resets`) is generated from the source; `reads`, `key` and `compute` are parameters.
-/
namespace Api.Cache

abbrev Point := Nat
abbrev Query := Nat
abbrev Key := Nat
abbrev Cfg := Point → Nat

structure World where
  /-- the mutation path of this point calls `cache.reset()` (from the generated table) -/
  resets : Point → Bool
  /-- the computation of `q` may look at point `p` -/
  reads : Query → Point → Bool
  /-- the `lru_cache` key of an observation (type object + option values) -/
  key : Query → Key
  /-- what a cold start computes -/
  compute : Cfg → Query → Nat

/-- the result of a query depends on the points it reads only -/
def World.Local (w : World) : Prop :=
  ∀ q c c', (∀ p, w.reads q p = true → c p = c' p) → w.compute c q = w.compute c' q
/-- equal cache keys, equal computations (`Union[A, B]` vs `Union[B, A]` breaks this) -/
def World.KeyFaithful (w : World) : Prop :=
  ∀ q q' c, w.key q = w.key q' → w.compute c q = w.compute c q'

inductive Op where
  | mutate (p : Point) (v : Nat)
  | observe (q : Query)
  /-- `lru_cache` eviction, at any time -/
  | evict (k : Key)
  /-- explicit `apischema.cache.reset()` -/
  | reset
  deriving Repr, DecidableEq

structure State where
  cfg : Cfg
  cache : List (Key × Nat)

def set (c : Cfg) (p : Point) (v : Nat) : Cfg := fun p' => if p' = p then v else c p'

def lookup (k : Key) : List (Key × Nat) → Option Nat
  | [] => none
  | (k', r) :: rest => if k' = k then some r else lookup k rest

def step (w : World) (s : State) : Op → State × Option Nat
  | .mutate p v => ({ cfg := set s.cfg p v, cache := if w.resets p then [] else s.cache }, none)
  | .observe q =>
      match lookup (w.key q) s.cache with
      | some r => (s, some r)
      | none => let r := w.compute s.cfg q
                ({ s with cache := (w.key q, r) :: s.cache }, some r)
  | .evict k => ({ s with cache := s.cache.filter (fun e => e.1 != k) }, none)
  | .reset => ({ s with cache := [] }, none)

/-- the cold-start specification: no cache at all -/
def specStep (w : World) (c : Cfg) : Op → Cfg × Option Nat
  | .mutate p v => (set c p v, none)
  | .observe q => (c, some (w.compute c q))
  | .evict _ => (c, none)
  | .reset => (c, none)

def trace (w : World) : State → List Op → List (Option Nat)
  | _, [] => []
  | s, op :: ops => (step w s op).2 :: trace w (step w s op).1 ops

def specTrace (w : World) : Cfg → List Op → List (Option Nat)
  | _, [] => []
  | c, op :: ops => (specStep w c op).2 :: specTrace w (specStep w c op).1 ops

def Inv (w : World) (s : State) : Prop :=
  ∀ q, ∀ r, lookup (w.key q) s.cache = some r → r = w.compute s.cfg q

def SafeOp (w : World) : Op → Prop
  | .mutate p _ => w.resets p = true ∨ ∀ q, w.reads q p = false
  | _ => True

theorem lookup_filter (k k' : Key) : ∀ (l : List (Key × Nat)),
    lookup k (l.filter (fun e => e.1 != k')) = if k = k' then none else lookup k l
  | [] => by rw [List.filter_nil, lookup, ite_self]
  | (a, b) :: l => by
    rw [List.filter_cons]
    by_cases ha : a = k'
    · rw [if_neg (fun h => bne_iff_ne.1 h ha), lookup_filter k k' l, lookup]
      by_cases hk : k = k'
      · rw [if_pos hk, if_pos hk]
      · rw [if_neg hk, if_neg hk, if_neg (fun h : a = k => hk (h.symm.trans ha))]
    · rw [if_pos (bne_iff_ne.2 ha), lookup, lookup, lookup_filter k k' l]
      by_cases hak : a = k
      · simp only [if_pos hak]; rw [if_neg (fun h : k = k' => ha (hak.trans h))]
      · simp only [if_neg hak]

theorem inv_step (w : World) (hl : w.Local) (hk : w.KeyFaithful) (s : State) (op : Op)
    (hi : Inv w s) (hs : SafeOp w op) : Inv w (step w s op).1 := by
  intro q r hq
  cases op with
  | mutate p v =>
    simp only [step] at hq ⊢
    split at hq
    · cases hq
    · next hr =>
      -- no reset, so no query reads `p`: a recomputation under the new configuration sees no change
      have h := hs.resolve_left hr
      rw [hi q r hq]
      exact hl q _ _ fun p' hp' => (if_neg fun hpp => by rw [hpp, h q] at hp'; cases hp').symm
  | observe q0 =>
    simp only [step] at hq ⊢
    split at hq
    · exact hi q r hq
    · simp only [lookup] at hq
      split at hq
      · next heq => cases hq; exact hk q0 q s.cfg heq
      · exact hi q r hq
  | evict k =>
    simp only [step, lookup_filter] at hq
    split at hq
    · cases hq
    · exact hi q r hq
  | reset => cases hq

theorem step_cfg (w : World) (s : State) : ∀ op, (step w s op).1.cfg = (specStep w s.cfg op).1
  | .observe q => by simp only [step]; split <;> rfl
  | .mutate .. | .evict _ | .reset => rfl

theorem step_out (w : World) (s : State) (hi : Inv w s) : ∀ op, (step w s op).2 = (specStep w s.cfg op).2
  | .observe q => by
    simp only [step]
    split
    · next r h => exact congrArg some (hi q r h)   -- a hit: by the invariant, what a cold start computes
    · rfl
  | .mutate .. | .evict _ | .reset => rfl

/-- **C09.** Over every history whose mutations go through resetting paths (or touch nothing a cached
    computation reads), with eviction and explicit resets interleaved arbitrarily, every observation is
    what a cold start under the configuration of that moment returns. -/
theorem C09_history (w : World) (hl : w.Local) (hk : w.KeyFaithful) :
    ∀ (h : List Op) (s : State), Inv w s → (∀ op ∈ h, SafeOp w op) →
      trace w s h = specTrace w s.cfg h
  | [], _, _, _ => rfl
  | op :: ops, s, hi, hs => by
    have ⟨hop, hs'⟩ := List.forall_mem_cons.1 hs
    rw [trace, specTrace, step_out w s hi, C09_history w hl hk ops _ (inv_step w hl hk s op hi hop) hs', step_cfg]

theorem inv_init (w : World) (c : Cfg) : Inv w { cfg := c, cache := [] } := by
  intro q r h; cases h

theorem C09 (w : World) (hl : w.Local) (hk : w.KeyFaithful) (c : Cfg) (h : List Op)
    (hs : ∀ op ∈ h, SafeOp w op) : trace w { cfg := c, cache := [] } h = specTrace w c h :=
  C09_history w hl hk h _ (inv_init w c) hs

/-! ### the hypotheses are needed: witnesses -/

/-- one point, read by query 0, whose mutation path does not reset (`CacheAwareDict.__delitem__`,
    `settings.errors`, `_schemas` before the repair of row 12) -/
def wNoReset : World := { resets := fun _ => false, reads := fun _ _ => true, key := id,
                          compute := fun c _ => c 0 }
theorem C09_stale_without_reset :
    trace wNoReset { cfg := fun _ => 0, cache := [] } [.observe 0, .mutate 0 1, .observe 0]
      ≠ specTrace wNoReset (fun _ => 0) [.observe 0, .mutate 0 1, .observe 0] := by decide +kernel

/-- two queries with one key and different results (`Union[A, B]` / `Union[B, A]`) -/
def wKeyClash : World := { resets := fun _ => true, reads := fun _ _ => true, key := fun _ => 0,
                           compute := fun _ q => q }
theorem C09_stale_key_clash :
    trace wKeyClash { cfg := fun _ => 0, cache := [] } [.observe 0, .observe 1]
      ≠ specTrace wKeyClash (fun _ => 0) [.observe 0, .observe 1] := by decide +kernel

/-- non-vacuity: a resetting world satisfies all hypotheses and has non-trivial histories -/
def wGood : World := { resets := fun _ => true, reads := fun _ _ => true, key := id,
                       compute := fun c q => c q + q }
example : wGood.Local := by
  intro q c c' h; simp [wGood, h q rfl]
example : wGood.KeyFaithful := by intro q q' c h; cases h; rfl
example : ∀ op ∈ [Op.observe 0, .mutate 0 1, .observe 0], SafeOp wGood op := by
  intro op _; cases op <;> simp [SafeOp, wGood]

end Api.Cache
