/-!
# A recursive function on lists, read off its two equations

The model spells the list companions of its mutually recursive functions out by hand (`compileL`, `accL`, `wfK`, …: a
nested inductive type admits no `List.map` / `List.all` under structural recursion). Each of them is a `List.map` or a
`List.all`, and the proofs use it in that form.
-/
namespace Api

theorem forall_mem_iff_of_cons {α} {f : List α → Bool} {p : α → Prop} (nil : f [] = true)
    (cons : ∀ a l, f (a :: l) = true ↔ p a ∧ f l = true) : ∀ {l}, f l = true ↔ ∀ a ∈ l, p a
  | [] => by simp [nil]
  | a :: l => by rw [cons, forall_mem_iff_of_cons nil cons, List.forall_mem_cons]

theorem eq_map_of_cons {α β} {f : List α → List β} {g : α → β} (nil : f [] = [])
    (cons : ∀ a l, f (a :: l) = g a :: f l) : ∀ l, f l = l.map g
  | [] => nil
  | a :: l => by rw [cons, eq_map_of_cons nil cons l, List.map_cons]

end Api
