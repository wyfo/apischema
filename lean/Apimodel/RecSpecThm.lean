import Apimodel.RecSoundThm
/-! The executable reference `onCycleB` (driver, harness) *is* the specification `OnCycle`: breadth-first search bounded by the number of entries of the graph
finds every cycle, because a shortest path repeats no node and every node of it but the last has an entry. -/
namespace Api.Rec

theorem mem_of_mem_dropWhile (p : Node → Bool) : ∀ (l : List Node) (x : Node), x ∈ l.dropWhile p → x ∈ l :=
  fun _ _ h => List.dropWhile_subset p h

theorem simple_path {g : Graph} {a c : Node} (h : Reach g a c) :
    ∃ p : List Node, Chain g (a :: p) ∧ (a :: p).getLast? = some c ∧ (a :: p).Nodup := by
  induction h with
  | refl a => exact ⟨[], trivial, rfl, List.nodup_cons.2 ⟨List.not_mem_nil, List.nodup_nil⟩⟩
  | @step a b c e _ ih =>
    obtain ⟨q, hc, hl, hn⟩ := ih
    by_cases ha : a ∈ b :: q
    · -- cut the loop: the part of `b :: q` from an occurrence of `a` on
      obtain ⟨s, t, hst⟩ := List.append_of_mem ha
      rw [hst] at hc hl hn
      exact ⟨t, (chain_append.1 hc).2.1, by simpa using hl, (List.nodup_append.1 hn).2.1⟩
    · exact ⟨b :: q, ⟨e, hc⟩, by rwa [List.getLast?_cons_cons], List.nodup_cons.2 ⟨ha, hn⟩⟩

theorem chain_found {g : Graph} : ∀ (p : List Node) (a : Node) (front : List Node) (k : Nat) (c : Node),
    Chain g (a :: p) → a ∈ front → p.length ≤ k → (a :: p).getLast? = some c → c ∈ reachFrom g k front
  | [], a, front, k, c, _, ha, _, hl => by
    obtain rfl : a = c := by simpa using hl
    cases k with
    | zero => exact ha
    | succ k => exact List.mem_append_left _ ha
  | b :: p, a, front, k + 1, c, hc, ha, hk, hl =>
    List.mem_append_right _ (chain_found p b _ k c hc.2 (List.mem_flatMap.2 ⟨a, ha, hc.1⟩) (Nat.le_of_succ_le_succ hk)
      (by rwa [List.getLast?_cons_cons] at hl))

theorem key_of_edge {g : Graph} {a b : Node} (h : Edge g a b) : a ∈ g.map (·.1) :=
  have ⟨_, hm, _⟩ := edge_entry h
  List.mem_map.2 ⟨_, hm, rfl⟩

theorem chain_sources {g : Graph} : ∀ (l : List Node) (c : Node), Chain g (l ++ [c]) → ∀ x ∈ l, x ∈ g.map (·.1)
  | [a], c, hc, x, hx => by
    obtain rfl : x = a := by simpa using hx
    exact key_of_edge hc.1
  | a :: b :: l, c, hc, x, hx => by
    rcases List.mem_cons.1 hx with rfl | hx
    · exact key_of_edge hc.1
    · exact chain_sources (b :: l) c hc.2 x hx

theorem onCycleB_complete (g : Graph) (n : Node) (h : OnCycle g n) : onCycleB g n = true := by
  obtain ⟨m, e, r⟩ := h
  obtain ⟨p, hc, hl, hn⟩ := simple_path r
  -- the path is `l ++ [n]`; the nodes of `l` are distinct and have entries, so it has at most `|g|` edges
  obtain ⟨l, hp⟩ := List.getLast?_eq_some_iff.1 hl
  have h1 := (List.nodup_append.1 (hp ▸ hn)).1.length_le_of_subset (chain_sources l n (hp ▸ hc))
  have h2 := congrArg List.length hp
  simp at h1 h2
  simpa [onCycleB] using chain_found p m (children g n) g.length n hc e (by omega) hl

theorem onCycleB_iff (g : Graph) (n : Node) : onCycleB g n = true ↔ OnCycle g n :=
  ⟨onCycleB_sound g n, onCycleB_complete g n⟩

/-- the driver emits the memo and `filter (onCycleB g)`, and the harness compares them in Python (rec_graph.py); `exact` says the same inside the theorems of `RecSeq` -/
theorem exact_iff (g : Graph) (c : Cache) : exact g c = true ↔ ∀ p ∈ c, (p.2 = true ↔ OnCycle g p.1) := by
  simp only [exact, List.all_eq_true, beq_iff_eq, ← onCycleB_iff]
  exact forall_congr' fun _ => imp_congr_right fun _ => Bool.eq_iff_iff

end Api.Rec
