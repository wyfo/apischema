import Apimodel.RecSeq
/-! The bound of `compileF` only matters for the overflow: an outcome reached within a bound is the outcome under every larger bound. -/
namespace Api.Rec

/-- `visitKids` is monotone in the visit of one child; stated with the map that every use in `compileF` (and `visitKids` itself) applies to its result -/
theorem visitKids_mono {f f' : Bool → Node → Option (Nat × Bool)} (h : ∀ b x r, f b x = some r → f' b x = some r) (restore : Bool)
    (φ : Nat × Bool → Nat × Bool) : ∀ (xs : List Node) (first : Bool) (r : Nat × Bool),
      (visitKids f restore first xs).map φ = some r → (visitKids f' restore first xs).map φ = some r
  | [], _, _, hr => hr
  | x :: xs, first, r, hr => by
    unfold visitKids at hr ⊢
    split at hr
    · cases hr
    · next hfx =>
      rw [h _ _ _ hfx]
      rw [Option.map_map] at hr ⊢
      exact visitKids_mono h restore _ xs _ r hr

theorem compileF_mono (g : Graph) (objs : List Node) (memo : Cache) :
    ∀ (fuel : Nat) (vc : List Node) (first : Bool) (n : Node) (r : Nat × Bool),
      compileF g objs memo fuel vc first n = some r → compileF g objs memo (fuel + 1) vc first n = some r
  | 0, _, _, _, _, h => nomatch h
  | fuel + 1, vc, first, n, r, h => by
    have ih := fun vc => visitKids_mono (compileF_mono g objs memo fuel vc) (objs.contains n)
    revert h
    rw [compileF, compileF]
    -- every branch is the placeholder or `(visitKids (compileF … fuel _) …).map _`
    cases memo.get? n == some true
    · cases first <;> exact ih _ _ _ _ _
    · cases vc.contains n
      · exact ih _ _ _ _ _
      · exact id

theorem compileF_bound_irrelevant (g : Graph) (objs : List Node) (memo : Cache) (fuel k : Nat) (vc : List Node) (first : Bool) (n : Node)
    (r : Nat × Bool) (h : compileF g objs memo fuel vc first n = some r) : compileF g objs memo (fuel + k) vc first n = some r := by
  induction k with
  | zero => exact h
  | succ k ih => exact compileF_mono g objs memo (fuel + k) vc first n r ih

end Api.Rec
