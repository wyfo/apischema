/-! Abstract forest walk: membership, no duplicates, permutation. Used for C16 (`sort_by_order`). -/
namespace Forest

variable {α : Type}

def up (par : α → Option α) : Nat → α → Option α
  | 0, x => some x
  | j+1, x => (up par j x).bind par

/-- `add_to_result` with fuel: before-children's blocks, the element, after-children's blocks -/
def walk (pre post : α → List α) : Nat → α → List α
  | 0, _ => []
  | k+1, e => (pre e).flatMap (walk pre post k) ++ [e] ++ (post e).flatMap (walk pre post k)

variable {par : α → Option α}

theorem up_add (a b : Nat) (x : α) : up par (a + b) x = (up par a x).bind (up par b) := by
  induction b with
  | zero => simp [up]
  | succ b ih =>
    show up par (a + b + 1) x = _
    rw [up, ih]
    cases up par a x <;> simp [up]

theorem up_succ' (j : Nat) (x : α) : up par (j+1) x = (par x).bind (up par j) := by
  rw [Nat.add_comm, up_add]; rfl

theorem up_none_of_root {r : α} (hr : par r = none) : ∀ j, 0 < j → up par j r = none
  | j+1, _ => by rw [up_succ', hr]; rfl

theorem up_sub {x a b : α} {i j : Nat} (h : i ≤ j) (hi : up par i x = some a) (hj : up par j x = some b) :
    up par (j - i) a = some b := by
  rw [← hj, ← Nat.add_sub_cancel' h, up_add, hi, Nat.add_sub_cancel_left]; rfl

theorem height_unique {x a b : α} (hab : ∀ d, 0 < d → up par d a ≠ some b) (hba : ∀ d, 0 < d → up par d b ≠ some a)
    {i j : Nat} (hi : up par i x = some a) (hj : up par j x = some b) : i = j := by
  apply Nat.le_antisymm <;> apply Nat.le_of_not_lt <;> intro h
  · exact hba _ (Nat.sub_pos_of_lt h) (up_sub (Nat.le_of_lt h) hj hi)
  · exact hab _ (Nat.sub_pos_of_lt h) (up_sub (Nat.le_of_lt h) hi hj)

def Rooted (par : α → Option α) (e : α) : Prop := ∃ i r, up par i e = some r ∧ par r = none

theorem Rooted.no_cycle {e : α} (h : Rooted par e) : ∀ j, 0 < j → up par j e ≠ some e := by
  obtain ⟨i, r, hi, hr⟩ := h
  intro j hj hcyc
  have h1 : up par (j + i) e = some r := by rw [up_add, hcyc]; exact hi
  rw [Nat.add_comm, up_add, hi] at h1
  rw [show (some r).bind (up par j) = up par j r from rfl, up_none_of_root hr j hj] at h1
  cases h1

theorem Rooted.child {c e : α} (h : Rooted par e) (hc : par c = some e) : Rooted par c := by
  obtain ⟨i, r, hi, hr⟩ := h
  exact ⟨i+1, r, by rw [up_succ', hc]; exact hi, hr⟩

/-- the forest data: a universe, children lists that are exactly the parent relation -/
structure Wf (par : α → Option α) (pre post : α → List α) (U : List α) : Prop where
  closed : ∀ c ∈ U, ∀ p, par c = some p → p ∈ U
  kids : ∀ e ∈ U, ∀ c, (c ∈ pre e ∨ c ∈ post e) ↔ (c ∈ U ∧ par c = some e)
  preNodup : ∀ e, (pre e).Nodup
  postNodup : ∀ e, (post e).Nodup
  disj : ∀ e c, c ∈ pre e → c ∉ post e

variable {pre post : α → List α} {U : List α}

theorem up_mem (w : Wf par pre post U) {x : α} (hx : x ∈ U) : ∀ j c, up par j x = some c → c ∈ U
  | 0, c, h => Option.some.inj h ▸ hx
  | j+1, c, h => by
    obtain ⟨d, hd, hc⟩ := Option.bind_eq_some_iff.1 h
    exact w.closed d (up_mem w hx j d hd) c hc

theorem walk_perm (k : Nat) (e : α) :
    (walk pre post (k+1) e).Perm (e :: (pre e ++ post e).flatMap (walk pre post k)) := by
  rw [walk, List.append_assoc, List.flatMap_append]
  exact List.perm_middle

theorem kids_nodup (w : Wf par pre post U) (e : α) : (pre e ++ post e).Nodup :=
  List.nodup_append.2 ⟨w.preNodup e, w.postNodup e, fun a ha _ hb hab => w.disj e a ha (hab ▸ hb)⟩

theorem mem_kids (w : Wf par pre post U) {e c : α} (he : e ∈ U) (hc : c ∈ pre e ++ post e) :
    c ∈ U ∧ par c = some e :=
  (w.kids e he c).1 (List.mem_append.1 hc)

theorem mem_walk (w : Wf par pre post U) : ∀ k e, e ∈ U → ∀ x,
    (x ∈ walk pre post k e ↔ x ∈ U ∧ ∃ j, j < k ∧ up par j x = some e)
  | 0, e, _, x => by simp [walk]
  | k+1, e, he, x => by
    rw [(walk_perm k e).mem_iff, List.mem_cons, List.mem_flatMap]
    constructor
    · rintro (rfl | ⟨c, hc, hxc⟩)
      · exact ⟨he, 0, Nat.succ_pos k, rfl⟩
      · obtain ⟨hcU, hpar⟩ := mem_kids w he hc
        obtain ⟨hx, j, hj, hup⟩ := (mem_walk w k c hcU x).1 hxc
        exact ⟨hx, j+1, Nat.succ_lt_succ hj, by rw [up, hup]; exact hpar⟩
    · rintro ⟨hx, j, hj, hup⟩
      cases j with
      | zero => exact Or.inl (Option.some.inj hup)
      | succ j =>
        obtain ⟨c, hc, hpar⟩ := Option.bind_eq_some_iff.1 hup
        have hcU := up_mem w hx j c hc
        exact Or.inr ⟨c, List.mem_append.2 ((w.kids e he c).2 ⟨hcU, hpar⟩),
          (mem_walk w k c hcU x).2 ⟨hx, j, Nat.lt_of_succ_lt_succ hj, hc⟩⟩

/-- The blocks of a duplicate-free list of rooted elements that lie on one level — whatever is below two of them is equally far
    below both (the roots; the children of one element) — have no element twice, within a block or across blocks. -/
theorem nodup_blocks (w : Wf par pre post U) : ∀ (k : Nat) (l : List α), l.Nodup →
    (∀ c ∈ l, c ∈ U ∧ Rooted par c) →
    (∀ a ∈ l, ∀ b ∈ l, ∀ x i j, up par i x = some a → up par j x = some b → i = j) →
    (l.flatMap (walk pre post k)).Nodup
  | 0, l, _, _, _ => by
    rw [(List.flatMap_eq_nil_iff (f := walk pre post 0)).2 (fun _ _ => rfl)]; exact List.nodup_nil
  | k+1, l, hl, hU, hind => by
    unfold List.Nodup
    rw [List.pairwise_flatMap]
    constructor
    · intro c hc
      obtain ⟨hcU, hcr⟩ := hU c hc
      have up_kid : ∀ d ∈ pre c ++ post c, ∀ x j, up par j x = some d → up par (j+1) x = some c :=
        fun d hd x j hj => by rw [up, hj]; exact (mem_kids w hcU hd).2
      show (walk pre post (k+1) c).Nodup
      rw [(walk_perm k c).nodup_iff, List.nodup_cons]
      constructor
      · -- `c` is in no block of a child: it would lie strictly above itself
        intro hmem
        obtain ⟨d, hd, hcd⟩ := List.mem_flatMap.1 hmem
        obtain ⟨_, j, _, hj⟩ := (mem_walk w k d (mem_kids w hcU hd).1 c).1 hcd
        exact hcr.no_cycle (j+1) (Nat.succ_pos j) (up_kid d hd c j hj)
      · -- what is `i` steps below one child and `j` below another is `i+1` and `j+1` below `c`, which has one height
        exact nodup_blocks w k _ (kids_nodup w c)
          (fun d hd => ⟨(mem_kids w hcU hd).1, hcr.child (mem_kids w hcU hd).2⟩)
          fun a ha b hb x i j hi hj =>
            Nat.succ.inj (height_unique hcr.no_cycle hcr.no_cycle (up_kid a ha x i hi) (up_kid b hb x j hj))
    · refine hl.imp_of_mem (fun {a b} ha hb hne x hxa y hyb hxy => ?_)
      subst hxy
      obtain ⟨_, i, _, hi⟩ := (mem_walk w (k+1) a (hU a ha).1 x).1 hxa
      obtain ⟨_, j, _, hj⟩ := (mem_walk w (k+1) b (hU b hb).1 x).1 hyb
      cases hind a ha b hb x i j hi hj
      exact hne (Option.some.inj (hi.symm.trans hj))

def output (pre post : α → List α) (roots : List α) (n : Nat) : List α :=
  roots.flatMap (walk pre post n)

theorem mem_output (w : Wf par pre post U) {roots : List α} (hroot : ∀ r ∈ roots, r ∈ U) (n : Nat) (x : α) :
    x ∈ output pre post roots n ↔ ∃ r ∈ roots, x ∈ U ∧ ∃ j, j < n ∧ up par j x = some r :=
  List.mem_flatMap.trans (exists_congr fun r => and_congr_right fun hr => mem_walk w n r (hroot r hr) x)

theorem nodup_output (w : Wf par pre post U) {roots : List α} (hn : roots.Nodup)
    (hroot : ∀ r ∈ roots, r ∈ U ∧ par r = none) (n : Nat) : (output pre post roots n).Nodup := by
  have top : ∀ a ∈ roots, ∀ b d, 0 < d → up par d a ≠ some b :=
    fun a ha b d hd h => by rw [up_none_of_root (hroot a ha).2 d hd] at h; cases h
  exact nodup_blocks w n roots hn (fun r hr => ⟨(hroot r hr).1, 0, r, rfl, (hroot r hr).2⟩)
    fun a ha b hb _ _ _ => height_unique (top a ha b) (top b hb a)

theorem perm_output (w : Wf par pre post U) (hU : U.Nodup) {roots : List α} (hn : roots.Nodup)
    (hroot : ∀ r ∈ roots, r ∈ U ∧ par r = none) (n : Nat)
    (anchored : ∀ x ∈ U, ∃ r ∈ roots, ∃ j, j < n ∧ up par j x = some r) :
    (output pre post roots n).Perm U := by
  rw [List.perm_ext_iff_of_nodup (nodup_output w hn hroot n) hU]
  intro x
  rw [mem_output w fun r hr => (hroot r hr).1]
  exact ⟨fun ⟨_, _, hx, _⟩ => hx, fun hx => have ⟨r, hr, h⟩ := anchored x hx; ⟨r, hr, hx, h⟩⟩

#print axioms perm_output
end Forest
