import Apimodel.RoundTripThm
/-!
# C01 (image): an accepted datum is turned into the value the type prescribes
Index-keyed fragment, proved for the copying methods and transported to `no_copy=True`.
-/
namespace Api

theorem run_list_image {c : Constraints} {m : Meth} {d : Py} {v : Val}
    (h : run (.list c m) d = .ok v) : ∃ xs vals, d = .list xs ∧ v = .list vals ∧
      All2 (fun x w => run m x = .ok w) xs vals := by
  rw [run] at h
  obtain ⟨xs, rfl, hk⟩ := onList_ok h
  obtain ⟨hc, he, hm⟩ := finish_ok hk
  cases hm
  exact ⟨xs, _, rfl, rfl, collect_vals_ok _ xs 0 hc he⟩

theorem run_tuple_image {c : Constraints} {ms : List Meth} {d : Py} {v : Val}
    (h : run (.tuple false c ms) d = .ok v) : ∃ xs vals, d = .list xs ∧ v = .tuple vals ∧
      All2 (fun (mx : Meth × Py) w => run mx.1 mx.2 = .ok w) (ms.zip xs) vals := by
  rw [run] at h
  obtain ⟨xs, rfl, hk⟩ := onList_ok h
  unfold tupleBody at hk
  split at hk
  · cases hk
  · split at hk
    · cases hk
    · next h1 h2 =>
      obtain ⟨hc, he, hm⟩ := finish_ok hk
      cases hm
      exact ⟨xs, _, rfl, rfl,
        runTuple_vals_ok ms xs 0 (Nat.le_antisymm (Nat.le_of_not_lt h1) (Nat.le_of_not_lt h2)) hc he⟩

theorem runFloat_image {c : Constraints} {d : Py} {v : Val} (h : runFloat false c d = .ok v) : v = image .float d := by
  unfold runFloat at h
  split at h
  · exact constrained_ok h
  · next i =>
    unfold intAsFloat at h
    rw [image]
    split at h
    · next f hi => rw [hi]; exact constrained_ok h
    · cases h
  · cases h
  · cases h

theorem runAny_data {c : Constraints} {d : Py} {v : Val} (h : runAny c d = .ok v) : v = asVal d := by
  revert h
  fun_cases runAny c d <;> intro h <;> first | exact constrained_ok h | (cases h; done) | (cases h; rfl)

theorem imageZip_of_all2 {g : Ty → Meth} : ∀ (ts : List Ty) (xs : List Py) {vs : List Val},
    All2 (fun (mx : Meth × Py) v => run mx.1 mx.2 = .ok v) ((ts.map g).zip xs) vs →
    (∀ t ∈ ts, ∀ x v, run (g t) x = .ok v → v = image t x) → vs = imageZip ts xs
  | [], _, _, h, _ | _ :: _, [], _, h, _ => by cases h; rfl
  | t :: ts, x :: xs, _, h, ih => by
    cases h with
    | cons h1 hs =>
      rw [imageZip, ih t (List.mem_cons_self ..) x _ h1,
        imageZip_of_all2 ts xs hs fun t' ht' => ih t' (List.mem_cons_of_mem _ ht')]

/-- **C01 (image), index-keyed fragment, copying methods.** -/
theorem image_nocopy_off {o : DOpts} (ho : OptsOk o) (hnc : o.noCopy = false) :
    ∀ cs t, t.efrag = true → ∀ d v, run (compile o cs t) d = .ok v → v = image t d := by
  apply Ty.induct_cs
  case null => intro cs _ d v h; rw [compile, run] at h; exact runNone_data h
  case bool => intro cs _ d v h; rw [compile, run] at h; exact runBool_data h
  case int => intro cs _ d v h; rw [run_compile_int] at h; exact runInt_data h
  case float => intro cs _ d v h; rw [run_compile_float, ho.quirks] at h; exact runFloat_image h
  case str => intro cs _ d v h; rw [run_compile_str] at h; exact runStr_data h
  case any => intro cs _ d v h; rw [compile, run] at h; exact runAny_data h
  case list =>
    intro cs t ih he d v h
    rw [Ty.efrag] at he
    rw [compile, listSel_copy hnc] at h
    obtain ⟨xs, vals, rfl, rfl, hall⟩ := run_list_image h
    rw [image, hall.eq_map (ih he)]
  case vtuple =>
    intro cs t ih he d v h
    rw [Ty.efrag] at he
    rw [compile, listSel_copy hnc, run] at h
    cases hr : run (.list cs (compile o {} t)) d with
    | invalid e | crash c => rw [hr] at h; cases h
    | ok w =>
      rw [hr] at h
      obtain ⟨xs, vals, rfl, rfl, hall⟩ := run_list_image hr
      cases h
      rw [image, hall.eq_map (ih he)]
  case tuple =>
    intro cs ts ih he d v h
    rw [Ty.efrag, efragL_iff] at he
    rw [compile_tuple_rep ho, compileL_eq_map] at h
    obtain ⟨xs, vals, rfl, rfl, hall⟩ := run_tuple_image h
    rw [image, imageZip_of_all2 ts xs hall fun t ht => ih t ht (he t ht)]
  case newtype | ann =>
    intro cs _ t ih he d v h; simp only [Ty.efrag] at he; simp only [compile] at h; simp only [image]; exact ih he d v h
  case literal => intro _ _ he; cases he
  case set | frozenset | union | enum => intro _ _ _ he; cases he
  case obj => intro _ _ _ _ he; cases he
  case mapping => intro _ _ _ _ _ he; cases he

/-- **C01 (image), index-keyed fragment.** Within `Ty.efrag` and `Ty.scope`, whatever value the compiled method returns is the image of the datum. -/
theorem C01_image_partial (o : DOpts) (ho : OptsOk o) (t : Ty) (he : t.efrag = true) (hs : t.scope = true)
    (d : Py) (v : Val) (h : run (compile o {} t) d = .ok v) : v = image t d :=
  image_nocopy_off (o := { o with noCopy := false }) ⟨ho.fbod, ho.quirks⟩ rfl {} t he d v
    ((run_compile_copy o {} t hs d).symm.trans h)

end Api
