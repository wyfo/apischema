/-!
# Basic data of the apischema model

Python data (`Py`), JSON classes, numbers, validation-error trees.
Import-free; every function total, computable and structurally recursive.
-/
namespace Api

/-- the seven classes of JSON-shaped Python data (`JSON_TYPES` / `TYPE_TO_JSON_TYPE`) -/
inductive JClass where
  | null | bool | int | float | str | list | dict
  deriving DecidableEq, Repr, Inhabited

/-- `JsonType.from_type`: the name used in `bad_type` messages and in schemas -/
def JClass.jsonName : JClass → String
  | .null => "null" | .bool => "boolean" | .int => "integer" | .float => "number"
  | .str => "string" | .list => "array" | .dict => "object"

/-- a Python `float`: every finite double is a rational -/
inductive Flt where
  | fin (q : Rat) | nan | pinf | ninf
  deriving DecidableEq, Repr, Inhabited

/-- any Python object that can be passed as data -/
inductive Py where
  | null
  | bool (b : Bool)
  | int (i : Int)
  | float (f : Flt)
  | str (s : String)
  | list (xs : List Py)
  /-- `dict` whose keys are all `str` (insertion order kept) -/
  | dict (kvs : List (String × Py))
  /-- `dict` with at least one non-`str` key -/
  | dictNS (kvs : List (Py × Py))
  /-- instance of a class that is not one of the seven JSON classes (tuple, bytes, set, …) -/
  | other (cls : String)
  deriving Repr, Inhabited

/-- `type(data)` when it is exactly one of the JSON classes -/
def Py.jclass? : Py → Option JClass
  | .null => some .null | .bool _ => some .bool | .int _ => some .int | .float _ => some .float
  | .str _ => some .str | .list _ => some .list | .dict _ => some .dict | .dictNS _ => some .dict
  | .other _ => Option.none

/-! ## Numbers -/

/-- a Python number (`int` or `float`) as used in constraints and comparisons -/
inductive Num where
  | int (i : Int) | flt (f : Flt)
  deriving DecidableEq, Repr, Inhabited

def Num.toFlt : Num → Flt
  | .int i => .fin i
  | .flt f => f

/-- `a < b` on Python floats (false as soon as a NaN is involved) -/
def Flt.lt : Flt → Flt → Bool
  | .nan, _ => false | _, .nan => false
  | .ninf, .ninf => false | .ninf, _ => true
  | _, .ninf => false
  | .pinf, _ => false
  | _, .pinf => true
  | .fin a, .fin b => decide (a < b)

/-- `a == b` on Python floats (NaN differs from everything) -/
def Flt.eq : Flt → Flt → Bool
  | .nan, _ => false | _, .nan => false
  | .fin a, .fin b => decide (a = b)
  | .pinf, .pinf => true | .ninf, .ninf => true
  | _, _ => false

def Flt.le (a b : Flt) : Bool := a.lt b || a.eq b

/-- Python compares `int` and `float` exactly -/
def Num.lt (a b : Num) : Bool := a.toFlt.lt b.toFlt
def Num.le (a b : Num) : Bool := a.toFlt.le b.toFlt
def Num.eq (a b : Num) : Bool := a.toFlt.eq b.toFlt

def Rat.isInt (q : Rat) : Bool := q.den == 1

/-- `not (data % m)`: `data` is an exact multiple of `m` (float `%` is exact; NaN is truthy) -/
def Num.isMultipleOf (x m : Num) : Bool :=
  match x.toFlt, m.toFlt with
  | .fin a, .fin b => if b = 0 then false else Rat.isInt (a / b)
  | .fin a, .pinf => decide (a = 0)
  | .fin a, .ninf => decide (a = 0)
  | _, _ => false

/-! ## Validation errors -/

/-- a component of an error location -/
inductive Key where
  | idx (i : Nat) | name (s : String)
  deriving DecidableEq, Repr, Inhabited

/-- `sorted(children)`: indices by value, names by code point; the two kinds never meet in
    JSON-shaped data (for the mixed case see `mixedKeys`) -/
def Key.lt : Key → Key → Bool
  | .idx a, .idx b => a < b
  | .name a, .name b => a < b
  | .idx _, .name _ => true
  | .name _, .idx _ => false

def Key.sameKind : Key → Key → Bool
  | .idx _, .idx _ => true
  | .name _, .name _ => true
  | _, _ => false

/-- a literal value of `Literal[...]` / an enum member value -/
inductive Lit where
  | null | bool (b : Bool) | int (i : Int) | float (f : Flt) | str (s : String)
  deriving DecidableEq, Repr, Inhabited

/-- one error message, as a rule kind with its parameters (never message text) -/
inductive Rule where
  | badType (expected : JClass) (found : Option JClass)
  | missing
  | missingRequiredBy (requiring : List String)
  | unexpected
  | minimum (n : Num) | maximum (n : Num) | exclusiveMinimum (n : Num) | exclusiveMaximum (n : Num)
  | multipleOf (n : Num)
  | minLength (n : Nat) | maxLength (n : Nat) | pattern (p : String)
  | minItems (n : Nat) | maxItems (n : Nat) | uniqueItems
  | minProperties (n : Nat) | maxProperties (n : Nat)
  | oneOf (vs : List Lit)
  | custom (msg : String)
  deriving DecidableEq, Repr, Inhabited

/-- `ValidationError`: own messages and children; children are kept sorted by key with distinct
    keys (canonical form), so that `flatten` (= `_errors`) is a plain walk -/
inductive Err where
  | mk (msgs : List Rule) (children : List (Key × Err))
  deriving Repr, Inhabited

def Err.msgs : Err → List Rule | .mk ms _ => ms
def Err.children : Err → List (Key × Err) | .mk _ cs => cs

def Err.leaf (r : Rule) : Err := .mk [r] []
def Err.ofMsgs (rs : List Rule) : Err := .mk rs []

abbrev Path := List Key
abbrev Errs := List (Path × Rule)

def pre (k : Key) (es : Errs) : Errs := es.map fun pr => (k :: pr.1, pr.2)

mutual
/-- `ValidationError._errors` -/
def Err.flatten : Err → Errs
  | .mk ms cs => ms.map (fun r => ([], r)) ++ flattenL cs
termination_by structural e => e
def flattenL : List (Key × Err) → Errs
  | [] => []
  | (k, e) :: cs => pre k e.flatten ++ flattenL cs
termination_by structural cs => cs
end

/-- `errors[key] = error` on the sorted child list (`set_child_error`, dict assignment) -/
def setChild (k : Key) (e : Err) : List (Key × Err) → List (Key × Err)
  | [] => [(k, e)]
  | (k', e') :: cs =>
    if k = k' then (k, e) :: cs
    else if k.lt k' then (k, e) :: (k', e') :: cs
    else (k', e') :: setChild k e cs

/-- do the children mix integer and string keys? (`sorted` then raises `TypeError`) -/
def mixedKeys : List (Key × Err) → Bool
  | [] => false
  | (k, _) :: cs => cs.any (fun c => !k.sameKind c.1) || mixedKeys cs

/-- the result of a deserialization: value, `ValidationError`, or any other exception -/
inductive Outcome (α : Type) where
  | ok (a : α)
  | invalid (e : Err)
  | crash (exn : String)
  deriving Repr, Inhabited

end Api
