/-! C20: small-step model of `RecursiveChecker.visit` (apischema/recursion.py) with a shared cache. -/
namespace Api.Rec

abbrev Node := Nat
abbrev Graph := List (Node × List Node)

def children (g : Graph) (n : Node) : List Node :=
  match g.find? (·.1 == n) with | some (_, cs) => cs | none => []

abbrev Cache := List (Node × Bool)
def Cache.get? (c : Cache) (n : Node) : Option Bool := (c.find? (·.1 == n)).map (·.2)
def Cache.set (c : Cache) (n : Node) (b : Bool) : Cache := (n, b) :: c.filter (·.1 != n)

structure Frame where
  node : Node
  todo : List Node
  deriving Repr, DecidableEq

/-- thread-local state of one `RecursiveChecker` instance -/
structure Local where
  stack : List Frame := []              -- innermost first; guard = stack.map node (reversed)
  recOf : List (Node × List Node) := [] -- `_recursive`
  allRec : List Node := []              -- `_all_recursive`
  writes : List (Node × Bool) := []     -- pending writes of the current exit
  start : Option Node                   -- initial `visit` not yet performed
  deriving Repr, DecidableEq

def Local.done (l : Local) : Bool := l.stack.isEmpty && l.writes.isEmpty && l.start.isNone

def addRec (r : List (Node × List Node)) (k : Node) (seg : List Node) : List (Node × List Node) :=
  match r.find? (·.1 == k) with
  | some (_, old) => (k, old ++ seg.filter (fun x => !old.contains x)) :: r.filter (·.1 != k)
  | none => (k, seg) :: r

/-- `visit(n)`: one atomic read of the shared cache, then local bookkeeping -/
def enter (g : Graph) (c : Cache) (l : Local) (n : Node) : Local :=
  if (c.get? n).isSome then l                                   -- `rec_key in self._cache`: pass
  else
    let guard := (l.stack.map (·.node)).reverse                 -- outermost first
    if guard.contains n then
      let seg := guard.dropWhile (· != n)                       -- guard[index(n):]
      { l with recOf := addRec l.recOf n seg, allRec := l.allRec ++ seg.filter (fun x => !l.allRec.contains x) }
    else { l with stack := ⟨n, children g n⟩ :: l.stack }

/-- writes performed when `visit(n)` returns, before the repair of row 96 (`stepEarly` in `RecSeq`) -/
def exitWrites (l : Local) (n : Node) : List (Node × Bool) :=
  match l.recOf.find? (·.1 == n) with
  | some (_, ks) => ks.map (·, true)
  | none => if l.allRec.contains n then [] else [(n, false)]

/-- the keys recorded for the head `k` (`_recursive.get(k, ())`) -/
def recKeys (r : List (Node × List Node)) (k : Node) : List Node :=
  match r.find? (·.1 == k) with | some (_, ks) => ks | none => []

/-- `visit(n)` returns (repaired, row 96): a head whose cycle is part of a bigger one still being explored — an outer key of the
    guard has recorded `n` — hands its keys to that outer head and writes nothing; otherwise it writes its keys.  A node that
    is no head writes `False` unless it belongs to a recorded cycle. -/
def exitFix (l : Local) (n : Node) (rest : List Frame) : Local :=
  match l.recOf.find? (·.1 == n) with
  | some (_, ks) =>
    match (rest.map (·.node)).reverse.find? (fun k => (recKeys l.recOf k).contains n) with
    | some k => { l with stack := rest, recOf := addRec (l.recOf.filter (·.1 != n)) k ks }
    | none => { l with stack := rest, writes := ks.map (·, true) }
  | none => { l with stack := rest, writes := if l.allRec.contains n then [] else [(n, false)] }

/-- one atomic step of a thread: at most one shared access -/
def step (g : Graph) (c : Cache) (l : Local) : Cache × Local :=
  match l.writes with
  | (k, b) :: ws => (c.set k b, { l with writes := ws })
  | [] =>
    match l.start with
    | some n => (c, enter g c { l with start := none } n)
    | none =>
      match l.stack with
      | [] => (c, l)
      | ⟨n, []⟩ :: rest => (c, exitFix l n rest)
      | ⟨n, ch :: todo⟩ :: rest => (c, enter g c { l with stack := ⟨n, todo⟩ :: rest } ch)

structure State where
  cache : Cache
  a : Local
  b : Local
  deriving Repr, DecidableEq

def stepSched (g : Graph) (s : State) (t : Bool) : State :=
  if t then let (c, l) := step g s.cache s.b; { s with cache := c, b := l }
  else let (c, l) := step g s.cache s.a; { s with cache := c, a := l }

def runSched (g : Graph) (s : State) (sched : List Bool) : State := sched.foldl (stepSched g) s

/-- Node = 0 (fields: int = 2, List[Node] = 1); List[Node] = 1 → Node -/
def g0 : Graph := [(0, [2, 1]), (1, [0]), (2, [])]
def init0 : State := { cache := [], a := { start := some 1 }, b := { start := some 0 } }

def seqAB : List Bool := List.replicate 30 false ++ List.replicate 30 true
/-- racy: B enters Node, A runs to completion, B finishes -/
def racy : List Bool := [true] ++ List.replicate 30 false ++ List.replicate 30 true


theorem seq_ok : ((runSched g0 init0 seqAB).cache.get? 0) = some true := by decide +kernel
/-- C20 without the lock (`is_recursive` before the repair of row 19): a schedule after which `Node` is marked non-recursive -/
theorem race_counterexample :
    (runSched g0 init0 racy).a.done = true ∧ (runSched g0 init0 racy).b.done = true ∧
    (runSched g0 init0 racy).cache.get? 0 = some false := by decide +kernel

/-! ## the repaired protocol: the whole analysis of one call runs under a lock

`is_recursive` takes a lock around the cache test and the traversal (repair of row 19).  A thread may step only when
the lock is free or its own; it takes the lock with its first step and releases it when its call is complete. -/

structure LState where
  cache : Cache
  a : Local
  b : Local
  /-- `some t`: thread `t` (false = A, true = B) holds the lock -/
  owner : Option Bool := none
  deriving Repr, DecidableEq

def Local.started (l : Local) : Bool := l.start.isNone
/-- inside its critical section -/
def Local.mid (l : Local) : Bool := l.started && !l.done

def stepA (g : Graph) (s : LState) : LState :=
  if s.a.done then s                                  -- the call has returned
  else if s.owner == some true then s                 -- blocked on the lock
  else { s with cache := (step g s.cache s.a).1, a := (step g s.cache s.a).2,
                owner := if (step g s.cache s.a).2.done then none else some false }
def stepB (g : Graph) (s : LState) : LState :=
  if s.b.done then s
  else if s.owner == some false then s
  else { s with cache := (step g s.cache s.b).1, b := (step g s.cache s.b).2,
                owner := if (step g s.cache s.b).2.done then none else some true }
def stepLocked (g : Graph) (s : LState) (t : Bool) : LState := if t then stepB g s else stepA g s

def runLocked (g : Graph) (s : LState) (sched : List Bool) : LState := sched.foldl (stepLocked g) s

def lockInv (s : LState) : Bool :=
  match s.owner with
  | none => !s.a.mid && !s.b.mid
  | some false => !s.b.mid
  | some true => !s.a.mid

theorem lockInv_iff (s : LState) :
    lockInv s = true ↔ (s.a.mid = true → s.owner = some false) ∧ (s.b.mid = true → s.owner = some true) := by
  unfold lockInv
  cases s.owner with
  | none => simp
  | some o => cases o <;> simp

/-- the owner written by a step of thread `t` that leaves `t` inside its critical section -/
theorem owner_of_mid {l : Local} (t : Bool) (h : l.mid = true) : (if l.done then none else some t) = some t := by
  have : l.done = false := by simp [Local.mid] at h; exact h.2
  simp [this]

/-- a thread that moves has found the lock free or its own, so by the invariant the other one is outside -/
theorem lockInv_step (g : Graph) (s : LState) (t : Bool) (h : lockInv s = true) : lockInv (stepLocked g s t) = true := by
  have ⟨ha, hb⟩ := (lockInv_iff s).1 h
  cases t
  · show lockInv (stepA g s) = true
    fun_cases stepA g s
    · exact h
    · exact h
    · next ho => exact (lockInv_iff _).2 ⟨owner_of_mid false, fun hm => absurd (beq_iff_eq.2 (hb hm)) ho⟩
  · show lockInv (stepB g s) = true
    fun_cases stepB g s
    · exact h
    · exact h
    · next ho => exact (lockInv_iff _).2 ⟨fun hm => absurd (beq_iff_eq.2 (ha hm)) ho, owner_of_mid true⟩

theorem lockInv_run (g : Graph) : ∀ (sched : List Bool) (s : LState), lockInv s = true → lockInv (runLocked g s sched) = true :=
  fun sched _ h => List.foldlRecOn (motive := (lockInv · = true)) sched _ h fun s hs t _ => lockInv_step g s t hs

/-- **C20 (mutual exclusion of the repaired protocol).** For every type graph, every pair of calls and every
    schedule — any length, any interleaving — the two traversals are never both inside their critical sections:
    the shared cache is only ever read and written by one complete analysis at a time. -/
theorem C20_mutex (g : Graph) (s : LState) (h : lockInv s = true) (sched : List Bool) :
    ¬ ((runLocked g s sched).a.mid = true ∧ (runLocked g s sched).b.mid = true) := by
  have hinv := (lockInv_iff _).1 (lockInv_run g sched s h)
  intro ⟨ha, hb⟩
  cases (hinv.1 ha).symm.trans (hinv.2 hb)

def linit0 : LState := { cache := [], a := { start := some 1 }, b := { start := some 0 } }
theorem linit0_inv : lockInv linit0 = true := by decide

/-- the racy schedule of `race_counterexample` under the lock: B's first step takes the lock, A is blocked until B has
    finished, and `Node` is recursive for both (a finite check on the example graph, by evaluation) -/
theorem C20_locked_racy_schedule_ok :
    (runLocked g0 linit0 (racy ++ racy)).a.done = true ∧ (runLocked g0 linit0 (racy ++ racy)).b.done = true ∧
    (runLocked g0 linit0 (racy ++ racy)).cache.get? 0 = some true ∧ (runLocked g0 linit0 (racy ++ racy)).cache.get? 1 = some true := by
  decide +kernel

end Api.Rec
