import Apimodel.Generated.TryShapes
/-! Two `try` blocks whose extent decides a property (rows 77 and 80).

* C13: in `UnionByTypeMethod.deserialize` the `try` whose `except KeyError` means "no method for the class of the datum" contains the table lookup *only*:
  a `KeyError` raised while the selected alternative deserializes (a converter or validator of the user) is not mistaken for a missing class - the model's
  `byTypeTail` has no such confusion to begin with, exceptions of user code being outside it.
* C14 / C03: in `LiteralMethod.deserialize` the loop over the classes of the literal values moves on after a class the datum cannot be coerced to
  (`ValidationError`), after a coerced value that is no literal (`KeyError`) and after an unhashable result of a custom coercer (`TypeError`) - the
  hypothesis of `tryLitClasses` (model) and of `tryLitClasses_perm` (order independence). -/
namespace Api

theorem try_shapes :
    Generated.try_byTypeLookup = "method: DeserializationMethod = self.method_by_cls[type(data)]" ∧ Generated.try_byTypeLookupHandlers = ["KeyError"] ∧
    Generated.try_litLoopCatches = "(KeyError, TypeError, ValidationError) -> pass" :=
  ⟨rfl, rfl, rfl⟩

end Api
