import Apimodel.Refs
/-!
# C17: the inlining builder terminates on every type graph (`C17_finite`); `C17_once`, `C17_all_refs`

Names are ranked by the order in which the extractor first meets them (`keys` of the counts: `incr` appends a new name).
The invariant of the extraction (`Post.closed`): every name `c` in the body of a met name `q` has been met, and either is counted
at least twice, so that it is selected and the builder emits a `$ref` for it, or was first met after `q`. Hence the rank strictly
increases along a chain of inlinings (`buildN_terminates`). A traversal is a fold over the references of the tree, left to right
(`walk_eq_foldl`): what is proved of traversals is proved of lists of names.
-/
namespace Api.Refs

def keys (r : Counts) : List String := r.map (·.1)
def Pos (r : Counts) : Prop := ∀ p ∈ r, 1 ≤ p.2

mutual
def refs : TyG → List String
  | .leaf => []
  | .ref n => [n]
  | .node ks => refsL ks
termination_by structural t => t
def refsL : List TyG → List String
  | [] => []
  | k :: ks => refs k ++ refsL ks
termination_by structural ks => ks
end

def rank : List String → String → Nat
  | [], _ => 0
  | k :: ks, n => if k = n then 0 else rank ks n + 1

theorem rank_eq_idxOf : ∀ (l : List String) (n : String), rank l n = l.idxOf n
  | [], _ => rfl
  | k :: ks, n => by
    rw [rank, List.idxOf_cons, rank_eq_idxOf ks n]
    by_cases h : k = n
    · rw [if_pos h, beq_iff_eq.2 h]; rfl
    · rw [if_neg h, beq_eq_false_iff_ne.2 h]; rfl

theorem rank_lt_length {l : List String} {n : String} (h : n ∈ l) : rank l n < l.length :=
  rank_eq_idxOf l n ▸ List.idxOf_lt_length_of_mem h

theorem rank_append (l s : List String) (n : String) :
    rank (l ++ s) n = if n ∈ l then rank l n else l.length + rank s n := by
  rw [rank_eq_idxOf, rank_eq_idxOf, rank_eq_idxOf, List.idxOf_append, Nat.add_comm]

theorem count_incr (n m : String) : ∀ (r : Counts), count (incr r n) m = count r m + if n = m then 1 else 0
  | [] => by simp [incr, count]
  | (k, c) :: r => by
    rw [incr]
    by_cases hk : k = n
    · subst hk; rw [if_pos rfl, count, count]; split <;> rfl
    · rw [if_neg hk, count, count, count_incr n m r]
      split
      · next hm => rw [if_neg (hm ▸ Ne.symm hk)]; rfl
      · rfl

theorem count_incr_self (r : Counts) (n : String) : count (incr r n) n = count r n + 1 := by
  rw [count_incr, if_pos rfl]

theorem count_le_incr (r : Counts) (n m : String) : count r m ≤ count (incr r n) m :=
  count_incr n m r ▸ Nat.le_add_right ..

theorem keys_incr : ∀ (r : Counts) (n : String),
    keys (incr r n) = if n ∈ keys r then keys r else keys r ++ [n]
  | [], n => rfl
  | (k, c) :: r, n => by
    show keys (if k = n then _ else _) = if n ∈ k :: keys r then k :: keys r else k :: keys r ++ [n]
    by_cases hk : k = n
    · rw [if_pos hk, if_pos (hk ▸ List.mem_cons_self)]; rfl
    · simp only [if_neg hk, List.mem_cons, Ne.symm hk, false_or]
      show k :: keys (incr r n) = _
      rw [keys_incr r n]; split <;> rfl

theorem pos_incr {r : Counts} (h : Pos r) (n : String) : Pos (incr r n) := by
  induction r with
  | nil => exact List.forall_mem_cons.2 ⟨Nat.le_refl 1, nofun⟩
  | cons a r ih =>
    have ⟨ha, hr⟩ := List.forall_mem_cons.1 h
    rw [incr]
    split
    · exact List.forall_mem_cons.2 ⟨Nat.le_add_left 1 _, hr⟩
    · exact List.forall_mem_cons.2 ⟨ha, ih hr⟩

theorem count_pos_iff : ∀ {r : Counts}, Pos r → ∀ n, (0 < count r n ↔ n ∈ keys r)
  | [], _, n => by simp [count, keys]
  | (k, c) :: r, h, n => by
    have ⟨hc, hr⟩ := List.forall_mem_cons.1 h
    rw [count, show keys ((k, c) :: r) = k :: keys r from rfl, List.mem_cons]
    split
    · next hk => exact ⟨fun _ => Or.inl hk.symm, fun _ => hc⟩
    · next hk => exact (count_pos_iff hr n).trans ⟨Or.inr, fun hn => hn.elim (fun hn => absurd hn.symm hk) id⟩

/-! ### fuel: one unit per named type of the environment not yet met -/
def ekeys (e : Env) : List String := e.map (·.1)
def unvisited : Env → Counts → Nat
  | [], _ => 0
  | p :: e, r => (if p.1 ∈ keys r then 0 else 1) + unvisited e r

theorem flag_le {a b : Prop} [Decidable a] [Decidable b] (h : a → b) :
    (if b then 0 else 1) ≤ (if a then 0 else 1 : Nat) := by
  by_cases ha : a
  · rw [if_pos ha, if_pos (h ha)]; exact Nat.le_refl 0
  · rw [if_neg ha]; split <;> omega

theorem unvisited_mono : ∀ (e : Env) {r r' : Counts}, (∀ x ∈ keys r, x ∈ keys r') →
    unvisited e r' ≤ unvisited e r
  | [], _, _, _ => Nat.le_refl _
  | p :: e, _, _, h => Nat.add_le_add (flag_le (h p.1)) (unvisited_mono e h)

theorem unvisited_lt : ∀ (e : Env) {r r' : Counts} {n : String}, (∀ x ∈ keys r, x ∈ keys r') →
    n ∈ ekeys e → n ∉ keys r → n ∈ keys r' → unvisited e r' < unvisited e r
  | p :: e, r, r', n, h, hn, hr, hr' => by
    rw [unvisited, unvisited]
    rcases List.mem_cons.1 hn with rfl | hn
    · rw [if_neg hr, if_pos hr']
      exact Nat.lt_of_le_of_lt (Nat.zero_add _ ▸ unvisited_mono e h) (Nat.lt_add_of_pos_left Nat.one_pos)
    · exact Nat.add_lt_add_of_le_of_lt (flag_le (h p.1)) (unvisited_lt e h hn hr hr')

theorem unvisited_le_length : ∀ (e : Env) (r : Counts), unvisited e r ≤ e.length
  | [], _ => Nat.le_refl _
  | p :: e, r => by
    rw [unvisited, List.length_cons, Nat.add_comm]
    exact Nat.add_le_add (unvisited_le_length e r) (by split <;> omega)

theorem unvisited_incr_lt (e : Env) {r : Counts} {n : String} (he : n ∈ ekeys e) (hn : n ∉ keys r) :
    unvisited e (incr r n) < unvisited e r := by
  have hk : keys (incr r n) = keys r ++ [n] := by rw [keys_incr, if_neg hn]
  exact unvisited_lt e (fun x hx => hk ▸ List.mem_append_left _ hx) he hn (hk ▸ List.mem_append_right _ List.mem_cons_self)

theorem body_leaf {e : Env} {n : String} (h : n ∉ ekeys e) : body e n = .leaf := by
  unfold body
  rw [List.find?_eq_none.2 (fun p hp hpn => h (List.mem_map.2 ⟨p, hp, eq_of_beq hpn⟩))]

/-- `r` before and `r'` after a traversal that meets the occurrences `seen`; `closed` speaks of the names new in `r'` -/
structure Post (e : Env) (r r' : Counts) (seen : List String) : Prop where
  pos : Pos r'
  ext : ∃ s, keys r' = keys r ++ s
  mono : ∀ n, count r n ≤ count r' n
  hit : ∀ c ∈ seen, count r c + 1 ≤ count r' c
  closed : ∀ q, q ∈ keys r' → q ∉ keys r → ∀ c ∈ refs (body e q),
    c ∈ keys r' ∧ (2 ≤ count r' c ∨ rank (keys r') q < rank (keys r') c)

theorem Post.refl {e : Env} {r : Counts} (h : Pos r) : Post e r r [] :=
  ⟨h, ⟨[], (List.append_nil _).symm⟩, fun _ => Nat.le_refl _, fun c hc => (by cases hc), fun q hq hnq => absurd hq hnq⟩

theorem Post.sub {e : Env} {r r' : Counts} {a : List String} (h : Post e r r' a) : ∀ x ∈ keys r, x ∈ keys r' := by
  obtain ⟨s, hs⟩ := h.ext
  intro x hx; rw [hs]; exact List.mem_append_left _ hx

theorem Post.mem {e : Env} {r r' : Counts} {a : List String} (h : Post e r r' a) {c : String} (hc : c ∈ a) : c ∈ keys r' :=
  (count_pos_iff h.pos c).1 (Nat.lt_of_lt_of_le (Nat.succ_pos _) (h.hit c hc))

theorem Post.trans {e : Env} {r r1 r2 : Counts} {a b : List String}
    (h1 : Post e r r1 a) (h2 : Post e r1 r2 b) : Post e r r2 (a ++ b) := by
  obtain ⟨s1, hs1⟩ := h1.ext
  obtain ⟨s2, hs2⟩ := h2.ext
  refine ⟨h2.pos, ⟨s1 ++ s2, by rw [hs2, hs1, List.append_assoc]⟩, fun n => Nat.le_trans (h1.mono n) (h2.mono n), ?_, ?_⟩
  · intro c hc
    rcases List.mem_append.1 hc with hc | hc
    · exact Nat.le_trans (h1.hit c hc) (h2.mono c)
    · exact Nat.le_trans (Nat.succ_le_succ (h1.mono c)) (h2.hit c hc)
  · intro q hq hnq c hc
    by_cases hq1 : q ∈ keys r1
    · -- closed in the first step: the counts only grow, and the ranks of names already there do not move
      obtain ⟨hm, hor⟩ := h1.closed q hq1 hnq c hc
      refine ⟨h2.sub c hm, hor.imp (fun h => Nat.le_trans h (h2.mono c)) (fun h => ?_)⟩
      rw [hs2, rank_append, rank_append, if_pos hq1, if_pos hm]; exact h
    · exact h2.closed q hq hq1 c hc

mutual
theorem walk_eq_foldl (onRef : String → Counts → Counts) :
    ∀ (t : TyG) (r : Counts), walk onRef t r = (refs t).foldl (flip onRef) r
  | .leaf, _ => rfl
  | .ref _, _ => rfl
  | .node ks, r => by rw [walk, refs]; exact walkL_eq_foldl onRef ks r
theorem walkL_eq_foldl (onRef : String → Counts → Counts) :
    ∀ (ks : List TyG) (r : Counts), walkL onRef ks r = (refsL ks).foldl (flip onRef) r
  | [], _ => rfl
  | t :: ks, r => by rw [walkL, refsL, List.foldl_append, walk_eq_foldl onRef t, walkL_eq_foldl onRef ks]
end

theorem foldl_post {e : Env} {k : Nat} {onRef : String → Counts → Counts}
    (H : ∀ n r, Pos r → unvisited e r ≤ k → Post e r (onRef n r) [n]) :
    ∀ (l : List String) (r : Counts), Pos r → unvisited e r ≤ k → Post e r (l.foldl (flip onRef) r) l
  | [], _, hp, _ => Post.refl hp
  | n :: l, r, hp, hf =>
    have h1 := H n r hp hf
    Post.trans h1 (foldl_post H l _ h1.pos (Nat.le_trans (unvisited_mono e h1.sub) hf))

theorem walk_post {e : Env} {k : Nat} {onRef : String → Counts → Counts}
    (H : ∀ n r, Pos r → unvisited e r ≤ k → Post e r (onRef n r) [n]) :
    ∀ (t : TyG) (r : Counts), Pos r → unvisited e r ≤ k → Post e r (walk onRef t r) (refs t) :=
  fun t r => walk_eq_foldl onRef t r ▸ foldl_post H (refs t) r

theorem walkL_post {e : Env} {k : Nat} {onRef : String → Counts → Counts}
    (H : ∀ n r, Pos r → unvisited e r ≤ k → Post e r (onRef n r) [n]) :
    ∀ (ks : List TyG) (r : Counts), Pos r → unvisited e r ≤ k → Post e r (walkL onRef ks r) (refsL ks) :=
  fun ks r => walkL_eq_foldl onRef ks r ▸ foldl_post H (refsL ks) r

theorem post_seen {e : Env} {r : Counts} {n : String} (hp : Pos r) (hn : n ∈ keys r) : Post e r (incr r n) [n] := by
  have hk : keys (incr r n) = keys r := by rw [keys_incr, if_pos hn]
  refine ⟨pos_incr hp n, ⟨[], by rw [hk, List.append_nil]⟩, count_le_incr r n, ?_, fun q hq hnq => absurd (hk ▸ hq) hnq⟩
  intro c hc; cases List.mem_singleton.1 hc; exact Nat.le_of_eq (count_incr_self r n).symm

/-- A first occurrence: `n` is appended to the keys, then whatever happens (`P1`: the traversal of its body) happens from
    there. A name `c` of the body has been counted by then; either it was already there when `n` came, and now counts twice,
    or it was appended after `n`. -/
theorem Post.new {e : Env} {r r' : Counts} {n : String} (hp : Pos r) (hn : n ∉ keys r)
    (P1 : Post e (incr r n) r' (refs (body e n))) : Post e r r' [n] := by
  have hk : keys (incr r n) = keys r ++ [n] := by rw [keys_incr, if_neg hn]
  have hn1 : n ∈ keys (incr r n) := hk ▸ List.mem_append_right _ List.mem_cons_self
  obtain ⟨s', hs'⟩ := P1.ext
  refine ⟨P1.pos, ⟨[n] ++ s', by rw [hs', hk, List.append_assoc]⟩,
    fun m => Nat.le_trans (count_le_incr r n m) (P1.mono m), ?_, ?_⟩
  · intro c hc; cases List.mem_singleton.1 hc
    exact count_incr_self r n ▸ P1.mono n
  · intro q hq hnq c hc
    by_cases hqn : q = n
    · subst hqn
      refine ⟨P1.mem hc, ?_⟩
      by_cases hc1 : c ∈ keys (incr r q)
      · exact Or.inl (Nat.le_trans (Nat.succ_le_succ ((count_pos_iff (pos_incr hp q) c).2 hc1)) (P1.hit c hc))
      · right
        rw [hs', rank_append, rank_append, if_pos hn1, if_neg hc1]
        exact Nat.lt_of_lt_of_le (rank_lt_length hn1) (Nat.le_add_right ..)
    · refine P1.closed q hq (fun h => ?_) c hc
      rw [hk] at h
      exact (List.mem_append.1 h).elim hnq (fun h => hqn (List.mem_singleton.1 h))

theorem visitN_eq_incr {e : Env} {n : String} {r : Counts} (h : 0 < count r n ∨ n ∉ ekeys e) :
    ∀ k, visitN e k n r = incr r n
  | 0 => rfl
  | k+1 => by
    rw [visitN]
    split
    · rfl
    · next hc => rw [body_leaf (h.resolve_left hc), walk]

theorem visit_post (e : Env) : ∀ (k : Nat) (n : String) (r : Counts), Pos r → unvisited e r ≤ k →
    Post e r (visitN e k n r) [n]
  | k, n, r, hp, hf => by
    by_cases hn : n ∈ keys r
    · rw [visitN_eq_incr (.inl ((count_pos_iff hp n).2 hn))]; exact post_seen hp hn
    by_cases he : n ∈ ekeys e
    · -- a first occurrence of a name of the environment uses up a unit of fuel
      have := unvisited_incr_lt e he hn
      match k with
      | 0 => omega
      | k+1 =>
        rw [visitN, if_neg (fun h => hn ((count_pos_iff hp n).1 h))]
        exact Post.new hp hn (walk_post (visit_post e k) (body e n) _ (pos_incr hp n) (by omega))
    · rw [visitN_eq_incr (.inr he)]
      exact Post.new hp hn (by rw [body_leaf he]; exact Post.refl (pos_incr hp n))

theorem extract_post (e : Env) (root : TyG) : Post e [] (extract e root) (refs root) :=
  walk_post (visit_post e e.length) root [] (fun p hp => by cases hp) (unvisited_le_length e [])

mutual
theorem buildT_isSome {onRef : String → Option SchG} :
    ∀ (t : TyG), (∀ c ∈ refs t, (onRef c).isSome = true) → (buildT onRef t).isSome = true
  | .leaf, _ => rfl
  | .ref n, h => h n List.mem_cons_self
  | .node ks, h => by
    rw [buildT, Option.isSome_map]; exact buildTL_isSome ks h
theorem buildTL_isSome {onRef : String → Option SchG} :
    ∀ (ks : List TyG), (∀ c ∈ refsL ks, (onRef c).isSome = true) → (buildTL onRef ks).isSome = true
  | [], _ => rfl
  | k :: ks, h => by
    rw [refsL] at h
    obtain ⟨s, hs⟩ := Option.isSome_iff_exists.1 (buildT_isSome k (fun c hc => h c (List.mem_append_left _ hc)))
    obtain ⟨ss, hss⟩ := Option.isSome_iff_exists.1 (buildTL_isSome ks (fun c hc => h c (List.mem_append_right _ hc)))
    rw [buildTL, hs, hss]; rfl
end

/-- along inlinings the discovery rank strictly increases, so `|keys| - rank` units of fuel suffice -/
theorem buildN_terminates {e : Env} {R : Counts} {sel : List String}
    (hclosed : ∀ q ∈ keys R, ∀ c ∈ refs (body e q),
        c ∈ keys R ∧ (2 ≤ count R c ∨ rank (keys R) q < rank (keys R) c))
    (hsel : ∀ c ∈ keys R, 2 ≤ count R c → sel.contains c = true) :
    ∀ (fuel : Nat) (q : String), q ∈ keys R → (keys R).length - rank (keys R) q ≤ fuel →
      (buildN sel e fuel q).isSome = true
  | 0, q, hq, hf => by have := rank_lt_length hq; omega
  | f+1, q, hq, hf => by
    rw [buildN]
    split
    · rfl
    · apply buildT_isSome
      intro c hc
      obtain ⟨hck, hor⟩ := hclosed q hq c hc
      cases hor with
      | inl h2 => rw [buildN_of_sel (hsel c hck h2)]; rfl
      | inr hlt => exact buildN_terminates hclosed hsel f c hck (by omega)

theorem mem_selected {allRefs : Bool} {R : Counts} {n : String} :
    n ∈ selected allRefs R ↔ n ∈ keys R ∧ (allRefs = true ∨ 2 ≤ count R n) := by
  simp [selected, keys, Nat.lt_iff_add_one_le]

/-- **C17 (finite).** On every type graph — shared, nested, recursive — the main schema and every
    definition are produced: the inlining builder never runs out of its `|names| + 1` units of fuel, i.e. the
    real builder does not recurse for ever. -/
theorem C17_finite (e : Env) (root : TyG) (allRefs : Bool) :
    (schema e root allRefs).main.isSome = true ∧
    ∀ p ∈ (schema e root allRefs).defs, p.2.isSome = true := by
  have P := extract_post e root
  have hclosed := fun q hq => P.closed q hq List.not_mem_nil
  -- every name met is built within the fuel: its rank is below the number of names
  have hT : ∀ c ∈ keys (extract e root),
      (buildN (selected allRefs (extract e root)) e ((extract e root).length + 1) c).isSome = true := fun c hc =>
    buildN_terminates hclosed (fun c hc h2 => List.contains_iff_mem.2 (mem_selected.2 ⟨hc, Or.inr h2⟩)) _ c hc
      (by rw [keys, List.length_map]; omega)
  constructor
  · exact buildT_isSome root (fun c hc => hT c (P.mem hc))
  · intro p hp
    obtain ⟨n, hn, rfl⟩ := List.mem_map.1 hp
    exact buildT_isSome _ (fun c hc => hT c (hclosed n (mem_selected.1 hn).1 c hc).1)

/-- a self-referential class, and a two-cycle in which `B`, met once, is inlined -/
example : ((schema [("A", .node [.ref "A", .leaf])] (.ref "A") false).defs.map (·.1)) = ["A"] := by decide +kernel
example : ((schema [("A", .node [.ref "B"]), ("B", .node [.node [.ref "A", .leaf]])] (.ref "A") false).defs.map (·.1))
    = ["A"] := by decide +kernel

theorem walk_inv {I : Counts → Prop} {onRef : String → Counts → Counts} (H : ∀ n r, I r → I (onRef n r)) :
    ∀ (t : TyG) (r : Counts), I r → I (walk onRef t r) :=
  fun t r h => walk_eq_foldl onRef t r ▸ List.foldlRecOn (refs t) _ h fun r hr n _ => H n r hr

theorem walkL_inv {I : Counts → Prop} {onRef : String → Counts → Counts} (H : ∀ n r, I r → I (onRef n r)) :
    ∀ (ks : List TyG) (r : Counts), I r → I (walkL onRef ks r) :=
  fun ks r h => walkL_eq_foldl onRef ks r ▸ List.foldlRecOn (refsL ks) _ h fun r hr n _ => H n r hr

theorem nodup_incr {r : Counts} (h : (keys r).Nodup) (n : String) : (keys (incr r n)).Nodup := by
  rw [keys_incr]
  split
  · exact h
  · next hn =>
    refine List.nodup_append.2 ⟨h, List.pairwise_singleton _ n, fun a ha b hb hab => ?_⟩
    exact hn (List.mem_singleton.1 hb ▸ hab ▸ ha)

theorem visitN_inv {I : Counts → Prop} (H : ∀ n r, I r → I (incr r n)) (e : Env) :
    ∀ (k : Nat) (n : String) (r : Counts), I r → I (visitN e k n r)
  | 0, n, r, h => H n r h
  | k+1, n, r, h => by
    rw [visitN]
    split
    · exact H n r h
    · exact walk_inv (visitN_inv H e k) _ _ (H n r h)

/-- **C17 (once).** `$defs` has one entry per name. -/
theorem C17_once (e : Env) (root : TyG) (allRefs : Bool) : ((schema e root allRefs).defs.map (·.1)).Nodup := by
  have hk : (keys (extract e root)).Nodup :=
    walk_inv (visitN_inv (I := fun r => (keys r).Nodup) (fun n _ h => nodup_incr h n) e e.length) root [] List.nodup_nil
  rw [schema_defs_keys]
  exact hk.sublist List.filter_sublist

/-- **C17 (`all_refs`).** With `all_refs` every name met is defined; without it, exactly those met more than once. -/
theorem C17_all_refs (e : Env) (root : TyG) (n : String) :
    (n ∈ selected true (extract e root) ↔ n ∈ keys (extract e root)) ∧
    (n ∈ selected false (extract e root) ↔ n ∈ keys (extract e root) ∧ 2 ≤ count (extract e root) n) := by
  simp [mem_selected]

end Api.Refs
