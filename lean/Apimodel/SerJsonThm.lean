import Apimodel.SerSchema
/-! # C04: on well-typed values `serialize` returns, and what it returns is made of JSON types only -/
namespace Api

def SJ (so : SOpts) (t : Ty) : Prop := ∀ v, HasTy t v = true → ∃ j, ser so t v = .ok j ∧ j.pure = true

/-- **C04 (JSON only, total).** -/
theorem ser_pure (so : SOpts) :
    (∀ t, SJ so t) ∧
    (∀ (_ : Bool) (fs : List (FieldInfo × Ty)), ∀ p ∈ fs, SJ so p.2) ∧
    (∀ ts : List Ty, ∀ vs, hasTyZip ts vs = true → ∃ js, serTuple so ts vs = .ok js ∧ pureL js = true) :=
  have core : ∀ t, SJ so t := fun t v hv => let ⟨j, hj, hp, _⟩ := ser_typed so false t v hv; ⟨j, hj, hp⟩
  ⟨core, fun _ _ p _ => core p.2, fun ts vs hv =>
    let ⟨js, hjs, hp, _⟩ := serTuple_typed ts vs hv fun t _ => ser_typed so false t; ⟨js, hjs, hp⟩⟩

/-- **C04.** For every type with typed values (`HasTy`), every option record and every value of the type, the serializer `ser` returns
    (it does not raise; `serialize` first asks `Ty.serFailure?` whether building the method fails) and the result is made of dicts with string keys, lists, strings, numbers, booleans and null -/
theorem C04_json_only (so : SOpts) (t : Ty) (v : Val) (hv : HasTy t v = true) :
    ∃ j, ser so t v = .ok j ∧ j.pure = true := (ser_pure so).1 t v hv

/-- outside the fragment the clause fails (row 21, finding KF21): the non-string literal keys of a mapping are emitted as they are -/
theorem C04_nonstring_keys_counterexample :
    (match ser {} (.mapping (.literal [.int 1]) .int) (.dict [(.int 1, .int 2)]) with | .ok j => j.pure | _ => true) = false := by
  decide +kernel

example : HasTy (.list (.tuple [.int, .str])) (.list [.tuple [.int 1, .str "a"]]) = true := by decide +kernel

end Api
