import Apimodel.ListLemmas
import Apimodel.SchemaSer
import Apimodel.SchemaThm
import Apimodel.SerLemmas
/-!
# C07: serialized data validates against the serialization schema; C04: which keys are emitted, in which order
-/
namespace Api

def onSomeVal (o : Option Val) (k : Val → Bool) : Bool := match o with | some x => k x | Option.none => false
def onObjVal (v : Val) (k : String → Bool) : Bool := match v with | .obj c _ => k c | _ => false

mutual
/-- `v` is a value of type `t`: the scope of C07 and C04. Primitives, lists, both tuple kinds, NewTypes, dataclasses with
    distinct aliases; no other type has a typed value — in particular no union, so a field of type `Optional[T]` is outside.
    An instance need only carry a typed value under each declared field (`hasFields`); the round trip asks for exactly the
    declared fields, in order (`HasTypeO`), and on object-free types the three predicates `HasType`, `HasTy`, `HasTypeO` have the same clauses. -/
def HasTy : Ty → Val → Bool
  | .null, v => match v with | .null => true | _ => false
  | .bool, v => match v with | .bool _ => true | _ => false
  | .int, v => match v with | .int _ => true | _ => false
  | .float, v => match v with | .float _ => true | _ => false
  | .str, v => match v with | .str _ => true | _ => false
  | .list t, v => onListVal v (fun xs => xs.all (fun x => HasTy t x))
  | .vtuple t, v => onTupleVal v (fun xs => xs.all (fun x => HasTy t x))
  | .tuple ts, v => onTupleVal v (fun xs => hasTyZip ts xs)
  | .newtype _ t, v => HasTy t v
  | .obj ci fs, v => ci.kind == .dataclass && distinctStrs (aliasesOf fs) && onObjVal v (fun c => c == ci.name)
      && hasFields fs v
  | _, _ => false
termination_by structural t => t
def hasTyZip : List Ty → List Val → Bool
  | [], [] => true
  | t :: ts, x :: xs => HasTy t x && hasTyZip ts xs
  | _, _ => false
termination_by structural ts => ts
def hasFields : List (FieldInfo × Ty) → Val → Bool
  | [], _ => true
  | (f, t) :: fs, v => onSomeVal (v.field? f.name) (fun x => HasTy t x) && hasFields fs v
termination_by structural fs => fs
end

/-- an omitted field is a skippable one (so it is not `required` in the schema) -/
theorem omitted_skippable (so : SOpts) (f : FieldInfo) (t : Ty) (x : Val)
    (h : omitted so { name := f.name, alias := f.alias, required := f.required, dflt := f.dflt,
                      optional := t.isOptionalUnion } x = true) : skippable so f t = true := by
  unfold omitted at h; unfold skippable
  simp only [Bool.or_eq_true, Bool.and_eq_true] at h ⊢
  -- skipped as `None` (an optional field, or one whose default is `None`), or skipped as equal to its default
  rcases h with ⟨⟨ho, hn⟩ | ⟨hd, he⟩, _⟩ | ⟨⟨⟨he, hd⟩, _⟩, _⟩
  · exact .inr ⟨hn, ho⟩
  · exact .inl ⟨by rw [eq_of_beq hd]; rfl, he⟩
  · exact .inl ⟨hd, he⟩

def SOK (so : SOpts) (ap : Bool) (t : Ty) : Prop :=
  ∀ v j, HasTy t v = true → ser so t v = .ok j → validates (buildS so ap t) j = true

-- as `Py.json`, without the bound on integers (`serialize` returns an `int` of any size as it is)
mutual
def Py.pure : Py → Bool
  | .null | .bool _ | .int _ | .float _ | .str _ => true
  | .list xs => pureL xs
  | .dict kvs => pureK kvs
  | .dictNS _ | .other _ => false
termination_by structural d => d
def pureL : List Py → Bool
  | [] => true
  | x :: xs => x.pure && pureL xs
termination_by structural xs => xs
def pureK : List (String × Py) → Bool
  | [] => true
  | (_, v) :: kvs => v.pure && pureK kvs
termination_by structural kvs => kvs
end

theorem pureK_append : ∀ (a b : List (String × Py)), pureK (a ++ b) = (pureK a && pureK b)
  | [], b => by simp [pureK]
  | (k, v) :: a, b => by simp [pureK, pureK_append a b, Bool.and_assoc]

theorem pureL_iff {js : List Py} : pureL js = true ↔ ∀ j ∈ js, j.pure = true :=
  forall_mem_iff_of_cons (by rw [pureL]) fun _ _ => by rw [pureL, Bool.and_eq_true]
theorem pureK_iff {kvs : List (String × Py)} : pureK kvs = true ↔ ∀ kv ∈ kvs, kv.2.pure = true :=
  forall_mem_iff_of_cons (by rw [pureK]) fun _ _ => by rw [pureK, Bool.and_eq_true]

theorem alias_mem {fs : List (FieldInfo × Ty)} {r : FieldInfo × Ty} (h : r ∈ fs) : r.1.alias ∈ aliasesOf fs :=
  aliasesOf_eq_map fs ▸ List.mem_map_of_mem h

theorem alias_unique : ∀ {fs : List (FieldInfo × Ty)}, (aliasesOf fs).Nodup → ∀ p ∈ fs, ∀ q ∈ fs,
    p.1.alias = q.1.alias → p = q :=
  fun hn _ hp _ hq he => eq_of_nodup_map (aliasesOf_eq_map _ ▸ hn) hp hq he

theorem propNames_buildSF (so : SOpts) (ap td : Bool) : ∀ fs, propNames (buildSF so ap td fs) = aliasesOf fs
  | [] => by rw [buildSF, propNames, aliasesOf]
  | (f, t) :: fs => by rw [buildSF, propNames, aliasesOf, propNames_buildSF so ap td fs]

theorem vProps_buildSF {so : SOpts} {ap td : Bool} {js : List (String × Py)} {all : List (FieldInfo × Ty)}
    (hn : (aliasesOf all).Nodup)
    (hA : ∀ kv ∈ js, ∃ p ∈ all, kv.1 = p.1.alias ∧ validates (buildS so ap p.2) kv.2 = true) :
    ∀ (fs : List (FieldInfo × Ty)), (∀ p ∈ fs, p ∈ all) → vProps (buildSF so ap td fs) js = true
  | [], _ => by rw [buildSF, vProps]
  | (f, t) :: fs, hsub => by
    rw [buildSF, vProps, vProps_buildSF hn hA fs (fun p hp => hsub p (List.mem_cons_of_mem _ hp)), Bool.and_true]
    cases hl : lookupKey js f.alias with
    | none => rfl
    | some x =>
      simp only [propOk, validates_fieldSchema]
      obtain ⟨q, hq, h1, h2⟩ := hA (f.alias, x) (lookupKey_mem hl)
      have := alias_unique hn (f, t) (hsub _ (List.mem_cons_self ..)) q hq h1
      rw [← this] at h2; exact h2

theorem required_present {so : SOpts} {js : List (String × Py)} : ∀ (fs : List (FieldInfo × Ty)),
    (∀ p ∈ fs, skippable so p.1 p.2 = false → ∃ j, (p.1.alias, j) ∈ js) →
    (requiredS so false fs).all (fun r => (lookupKey js r).isSome) = true
  | [], _ => by rw [requiredS]; rfl
  | (f, t) :: fs, h => by
    rw [requiredS, List.all_append, required_present fs (fun p hp => h p (List.mem_cons_of_mem _ hp)), Bool.and_true]
    cases hs : skippable so f t
    · obtain ⟨j, hj⟩ := h (f, t) (List.mem_cons_self ..) hs
      have : (lookupKey js f.alias).isSome = true := by
        rw [lookupKey, Option.isSome_map, List.find?_isSome]; exact ⟨_, hj, beq_self_eq_true _⟩
      simp [reqS, hs, this]
    · simp [reqS, hs]

def expectedKeys (so : SOpts) : List (FieldInfo × Ty) → Val → List String
  | [], _ => []
  | (f, t) :: fs, v =>
    (match v.field? f.name with
     | some x => if omitted so { name := f.name, alias := f.alias, required := f.required, dflt := f.dflt,
                                 optional := t.isOptionalUnion } x then [] else [f.alias]
     | Option.none => []) ++ expectedKeys so fs v

/-- One induction over the field loop, for any property `P` of the serialized values: `ser_typed`, `serFields_props` and
    `C04_keys` are instances. -/
theorem serFields_typed {so : SOpts} {v : Val} {P : Ty → Py → Prop} : ∀ (fs : List (FieldInfo × Ty)),
    hasFields fs v = true → (∀ p ∈ fs, ∀ x, HasTy p.2 x = true → ∃ j, ser so p.2 x = .ok j ∧ P p.2 j) →
    ∃ js, serFields so false fs v = .ok js ∧
      (∀ kv ∈ js, ∃ p ∈ fs, kv.1 = p.1.alias ∧ P p.2 kv.2) ∧
      (∀ p ∈ fs, skippable so p.1 p.2 = false → ∃ j, (p.1.alias, j) ∈ js) ∧
      js.map (·.1) = expectedKeys so fs v
  | [], _, _ => ⟨[], by rw [serFields], fun _ h => (List.not_mem_nil h).elim, fun _ h => (List.not_mem_nil h).elim, rfl⟩
  | (f, t) :: fs, ht, hser => by
    rw [hasFields, Bool.and_eq_true] at ht
    obtain ⟨js, hjs, hA, hB, hK⟩ := serFields_typed fs ht.2 fun p hp => hser p (List.mem_cons_of_mem _ hp)
    cases hx : v.field? f.name with
    | none => rw [hx] at ht; exact nomatch ht.1
    | some x =>
      rw [hx] at ht
      rw [serFields_cons hx]; simp only [expectedKeys, hx]
      have hA' : ∀ kv ∈ js, ∃ p ∈ (f, t) :: fs, kv.1 = p.1.alias ∧ P p.2 kv.2 := fun kv hkv =>
        let ⟨q, hq, h⟩ := hA kv hkv; ⟨q, List.mem_cons_of_mem _ hq, h⟩
      by_cases hom : omitted so { name := f.name, alias := f.alias, required := f.required, dflt := f.dflt,
                                  optional := t.isOptionalUnion } x = true
      · rw [if_pos hom, if_pos hom]
        exact ⟨js, hjs, hA',
          List.forall_mem_cons.2 ⟨(fun hsk => nomatch (omitted_skippable so f t x hom).symm.trans hsk), hB⟩, hK⟩
      · rw [if_neg hom, if_neg hom]
        obtain ⟨j, hj, hP⟩ := hser (f, t) (List.mem_cons_self ..) x ht.1
        exact ⟨(f.alias, j) :: js, by rw [hj, bindO, hjs]; rfl,
          List.forall_mem_cons.2 ⟨⟨(f, t), List.mem_cons_self .., rfl, hP⟩, hA'⟩,
          List.forall_mem_cons.2 ⟨fun _ => ⟨j, List.mem_cons_self ..⟩,
            fun p hp hsk => let ⟨j', hj'⟩ := hB p hp hsk; ⟨j', List.mem_cons_of_mem _ hj'⟩⟩,
          by rw [List.map_cons, hK]; rfl⟩

def SerOK (so : SOpts) (ap : Bool) (t : Ty) : Prop :=
  ∀ v, HasTy t v = true → ∃ j, ser so t v = .ok j ∧ j.pure = true ∧ validates (buildS so ap t) j = true

theorem ofType_ok {j : JT} {p : Py} (h : typeMatches p j = true) : validates (Sch.ofType j) p = true := by
  rw [Sch.ofType, validates_leaf, consOk_empty, Bool.and_true, List.any_cons, h]; rfl

theorem array_ok {s : Sch} {js : List Py} (h : ∀ j ∈ js, j.pure = true ∧ validates s j = true) :
    (Py.list js).pure = true ∧
      validates (.mk [.array] none [] {} (subKw s) none [] [] none [] [] none) (.list js) = true := by
  refine ⟨by rw [Py.pure]; exact pureL_iff.2 fun j hj => (h j hj).1, ?_⟩
  rw [validates_array']
  simp only [consOk_empty, Bool.true_and]
  exact List.all_eq_true.2 fun j hj => (h j hj).2

theorem buildSL_eq_map (so : SOpts) (ap : Bool) : ∀ ts, buildSL so ap ts = ts.map (buildS so ap) :=
  eq_map_of_cons (by rw [buildSL]) fun _ _ => by rw [buildSL]

theorem serTuple_typed {so : SOpts} {ap : Bool} : ∀ (ts : List Ty) (vs : List Val), hasTyZip ts vs = true →
    (∀ t ∈ ts, SerOK so ap t) → ∃ js, serTuple so ts vs = .ok js ∧ pureL js = true ∧
      vZip (buildSL so ap ts) js = true ∧ js.length = ts.length
  | [], [], _, _ => ⟨[], rfl, rfl, rfl, rfl⟩
  | [], _ :: _, hv, _ => nomatch hv
  | _ :: _, [], hv, _ => nomatch hv
  | t :: ts, v :: vs, hv, ih => by
    rw [hasTyZip, Bool.and_eq_true] at hv
    obtain ⟨j, hj, hp, hval⟩ := ih t (List.mem_cons_self ..) v hv.1
    obtain ⟨js, hjs, hps, hz, hl⟩ := serTuple_typed ts vs hv.2 fun t' ht' => ih t' (List.mem_cons_of_mem _ ht')
    exact ⟨j :: js, serTuple_cons_ok hj hjs, by rw [pureL, hp, hps]; rfl, by rw [buildSL, vZip, hval, hz]; rfl,
      congrArg (· + 1) hl⟩

theorem ser_typed (so : SOpts) (ap : Bool) (t : Ty) : SerOK so ap t := by
  apply Ty.induct_cs (P := fun _ t => SerOK so ap t) (cs := {})
  case null | bool | int | float | str =>
    intro _ v hv; unfold HasTy at hv; split at hv
    · exact ⟨_, rfl, rfl, ofType_ok rfl⟩
    · cases hv
  case list | vtuple =>
    intro _ t ih v hv
    simp only [HasTy, onListVal_iff, onTupleVal_iff] at hv
    obtain ⟨vs, rfl, h⟩ := hv
    obtain ⟨js, hjs, hall⟩ := mapMO_rel (R := fun _ j => j.pure = true ∧ validates (buildS so ap t) j = true) vs
      fun x hx => ih x (List.all_eq_true.1 h x hx)
    simp only [buildS]
    exact ⟨.list js, by rw [ser]; exact serColl_ok rfl hjs, array_ok hall.forall_right⟩
  case tuple =>
    intro _ ts ih v hv
    simp only [HasTy, onTupleVal_iff] at hv
    obtain ⟨vs, rfl, h⟩ := hv
    obtain ⟨js, hjs, hp, hz, hl⟩ := serTuple_typed ts vs h ih
    refine ⟨.list js, ser_tuple_ok hjs, by rw [Py.pure]; exact hp, ?_⟩
    simp only [buildS]
    rw [← mergeInto_empty (Sch.mk ..),
      validates_tupleNode {} rfl _ _ (by rw [buildSL_eq_map, List.length_map]), tupleOk, hl, listErrors_empty, hz]
    simp
  case newtype =>
    intro _ n t ih v hv
    simp only [HasTy] at hv
    obtain ⟨j, hj, hp⟩ := ih v hv
    exact ⟨j, by simp only [ser]; exact hj, by simp only [buildS]; exact hp⟩
  case obj =>
    intro _ ci fs ih v hv
    simp only [HasTy, Bool.and_eq_true] at hv
    obtain ⟨⟨⟨hk, hdist⟩, _⟩, hf⟩ := hv
    have hkind : (ci.kind == ObjKind.typedDict) = false := by
      rw [beq_iff_eq] at hk; rw [hk]; rfl
    obtain ⟨js, hjs, hA, hB, _⟩ := serFields_typed (P := fun t j => j.pure = true ∧ validates (buildS so ap t) j = true)
      fs hf ih
    refine ⟨.dict js, ser_obj_ok hkind hjs, ?_, ?_⟩
    · rw [Py.pure]
      exact pureK_iff.2 fun kv hkv => let ⟨_, _, _, h⟩ := hA kv hkv; h.1
    · have hA' : ∀ kv ∈ js, ∃ p ∈ fs, kv.1 = p.1.alias ∧ validates (buildS so ap p.2) kv.2 = true :=
        fun kv hkv => let ⟨p, hp, h1, h2⟩ := hA kv hkv; ⟨p, hp, h1, h2.2⟩
      simp only [buildS]; rw [validates_object', hkind]
      simp only [consOk_empty, Bool.true_and, vProps_buildSF (nodup_of_distinctStrs hdist) hA' fs (fun p hp => hp),
        required_present fs hB, propNames_buildSF, Bool.and_true]
      cases ap
      · simp only [Bool.false_or, List.all_eq_true]
        intro kv hkv
        obtain ⟨p, hp, h1, _⟩ := hA kv hkv
        rw [h1]; simpa using alias_mem hp
      · rfl
  -- no other type has a typed value
  all_goals intros; intro _ hv; cases hv

theorem C07_serialized_validates (so : SOpts) (ap : Bool) (t : Ty) (v : Val) (j : Py)
    (hv : HasTy t v = true) (hs : ser so t v = .ok j) : validates (buildS so ap t) j = true := by
  obtain ⟨j', hj', _, h⟩ := ser_typed so ap t v hv
  cases hj'.symm.trans hs; exact h

/-- **C07, fragment with dataclass objects.** Whatever `serialize` emits for a typed value validates
    against the serialization schema built with the same `exclude_none` / `exclude_defaults` — every
    nesting of lists, tuples, NewTypes and dataclasses (aliases, defaults; a field of a union type, `Optional[T]` included,
    has no typed value and is outside). -/
theorem serialized_validates (so : SOpts) (ap : Bool) :
    (∀ t, SOK so ap t) ∧
    (∀ (_ : Bool) (fs : List (FieldInfo × Ty)), ∀ p ∈ fs, SOK so ap p.2) ∧
    (∀ ts : List Ty, ∀ vs js, hasTyZip ts vs = true → serTuple so ts vs = .ok js →
        vZip (buildSL so ap ts) js = true ∧ js.length = ts.length) :=
  ⟨fun t v j => C07_serialized_validates so ap t v j, fun _ _ p _ v j => C07_serialized_validates so ap p.2 v j,
   fun ts vs js hv hs => by
    obtain ⟨js', hjs', _, h⟩ := serTuple_typed ts vs hv fun t _ => ser_typed so ap t
    cases hjs'.symm.trans hs; exact h⟩

theorem serFields_props {so : SOpts} {ap : Bool} {v : Val} : ∀ (fs : List (FieldInfo × Ty)) (js : List (String × Py)),
    (∀ p ∈ fs, SOK so ap p.2) → hasFields fs v = true → serFields so false fs v = .ok js →
    (∀ kv ∈ js, ∃ p ∈ fs, kv.1 = p.1.alias ∧ validates (buildS so ap p.2) kv.2 = true) ∧
    (∀ p ∈ fs, skippable so p.1 p.2 = false → ∃ j, (p.1.alias, j) ∈ js) := fun fs js hok ht hs => by
  obtain ⟨js', hjs', hA, hB, _⟩ := serFields_typed (so := so) (P := fun t j => validates (buildS so ap t) j = true) fs ht
    fun p hp x hx => let ⟨j, hj, _⟩ := ser_typed so ap p.2 x hx; ⟨j, hj, hok p hp x j hx hj⟩
  cases hjs'.symm.trans hs; exact ⟨hA, hB⟩

def exCls : Ty :=
  .obj { name := "A" } [({ name := "a", alias := "a", required := true }, .int),
                        ({ name := "b", alias := "bb", required := false, dflt := some (.lit .null) }, .union [.str, .null])]

example : HasTy (.list (.obj { name := "P" } [({ name := "x", alias := "x", required := true }, .tuple [.int, .str])]))
    (.list [.obj "P" [("x", .tuple [.int 1, .str "s"])]]) = true := by decide +kernel

/-- why the statement asks for the same `exclude_none` / `exclude_defaults` on both sides: the schema is built from the *global* settings while
    `serialize` also takes per-call options; with `exclude_defaults=True` passed to the call only, a key the
    schema requires is omitted (outside C07 as stated; replayed on the real code) -/
theorem C07_options_mismatch_counterexample :
    (match ser { excludeDefaults := true } (.obj { name := "A" }
            [({ name := "a", alias := "a", required := false, dflt := some (.lit (.int 0)) }, .int)])
          (.obj "A" [("a", .int 0)]) with
     | .ok (.dict kvs) => kvs.map (·.1)
     | _ => ["?"]) = []
    ∧ validates (buildS {} false (.obj { name := "A" }
            [({ name := "a", alias := "a", required := false, dflt := some (.lit (.int 0)) }, .int)])) (.dict []) = false := by
  decide +kernel

/-- **C04 (emitted keys).** For a dataclass instance, a key is emitted iff its field is not omitted by the
    `exclude_none` / `exclude_defaults` rules, and the keys come in field order. -/
theorem C04_keys (so : SOpts) : ∀ (fs : List (FieldInfo × Ty)) (v : Val) (js : List (String × Py)),
    hasFields fs v = true → serFields so false fs v = .ok js → js.map (·.1) = expectedKeys so fs v := fun fs v js ht hs => by
  obtain ⟨js', hjs', _, _, hK⟩ := serFields_typed (so := so) (P := fun _ _ => True) fs ht
    fun p _ x hx => let ⟨j, hj, _⟩ := ser_typed so false p.2 x hx; ⟨j, hj, trivial⟩
  cases hjs'.symm.trans hs; exact hK

end Api
