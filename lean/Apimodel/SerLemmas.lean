import Apimodel.Ser
import Apimodel.DeserLemmas
/-!
# What `ser` returns on a value of each form, and the monadic map behind it

Used by C04 / C07 (`SerSchema`) and by the round trip C05 (`RoundTripThm`); nothing here looks at deserialization.
-/
namespace Api

def onListVal (v : Val) (k : List Val → Bool) : Bool := match v with | .list xs => k xs | _ => false
def onTupleVal (v : Val) (k : List Val → Bool) : Bool := match v with | .tuple xs => k xs | _ => false

theorem onListVal_iff {v : Val} {k : List Val → Bool} : onListVal v k = true ↔ ∃ xs, v = .list xs ∧ k xs = true := by
  unfold onListVal; split
  · simp
  · next h => exact ⟨fun hf => Bool.noConfusion hf, fun ⟨xs, hv, _⟩ => (h xs hv).elim⟩
theorem onTupleVal_iff {v : Val} {k : List Val → Bool} : onTupleVal v k = true ↔ ∃ xs, v = .tuple xs ∧ k xs = true := by
  unfold onTupleVal; split
  · simp
  · next h => exact ⟨fun hf => Bool.noConfusion hf, fun ⟨xs, hv, _⟩ => (h xs hv).elim⟩

theorem listErrors_empty (js : List Py) : ({} : Constraints).listErrors js = some [] := rfl

theorem mapMO_rel {α β : Type} {f : α → Outcome β} {R : α → β → Prop} : ∀ (xs : List α),
    (∀ x ∈ xs, ∃ y, f x = .ok y ∧ R x y) → ∃ ys, mapMO f xs = .ok ys ∧ All2 R xs ys
  | [], _ => ⟨[], rfl, .nil⟩
  | x :: xs, h => by
    obtain ⟨y, hy, hr⟩ := h x (List.mem_cons_self ..)
    obtain ⟨ys, hys, hall⟩ := mapMO_rel xs (fun w hw => h w (List.mem_cons_of_mem _ hw))
    exact ⟨y :: ys, by rw [mapMO, hy, bindO, hys]; rfl, .cons hr hall⟩

theorem mapMO_ok {f : Val → Outcome Py} {g : Py → Outcome Val} : ∀ (vs : List Val),
    (∀ v ∈ vs, ∃ j, f v = .ok j ∧ g j = .ok v) →
    ∃ js, mapMO f vs = .ok js ∧ All2 (fun j v => g j = .ok v) js vs := fun vs h =>
  let ⟨js, hjs, hall⟩ := mapMO_rel (R := fun v j => g j = .ok v) vs h
  ⟨js, hjs, hall.flip⟩

theorem serColl_ok {v : Val} {f : Val → Outcome Py} {vs : List Val} {js : List Py} (hv : v.items? = some vs)
    (h : mapMO f vs = .ok js) : serColl v f = .ok (.list js) := by
  simp only [serColl, hv, h, bindO]
theorem ser_tuple_ok {so : SOpts} {ts : List Ty} {vs : List Val} {js : List Py} (h : serTuple so ts vs = .ok js) :
    ser so (.tuple ts) (.tuple vs) = .ok (.list js) := by
  rw [ser]; simp only [serTupleV, Val.items?, h, bindO]
theorem serTuple_cons_ok {so : SOpts} {t ts v vs j js} (h : ser so t v = .ok j) (hs : serTuple so ts vs = .ok js) :
    serTuple so (t :: ts) (v :: vs) = .ok (j :: js) := by
  rw [serTuple, h, bindO, hs]; rfl

theorem ser_obj_ok {so : SOpts} {ci : ClassInfo} {fs : List (FieldInfo × Ty)} {v : Val} {js : List (String × Py)}
    (hk : (ci.kind == ObjKind.typedDict) = false) (h : serFields so false fs v = .ok js) :
    ser so (.obj ci fs) v = .ok (.dict js) := by
  rw [ser, hk, h]; simp only [serObj, bindO, hk, Bool.false_and, Bool.false_eq_true, if_false]

theorem serFields_cons {so : SOpts} {f : FieldInfo} {t : Ty} {fs : List (FieldInfo × Ty)} {v x : Val}
    (hx : v.field? f.name = some x) :
    serFields so false ((f, t) :: fs) v =
      if omitted so { name := f.name, alias := f.alias, required := f.required, dflt := f.dflt,
                      optional := t.isOptionalUnion } x
      then serFields so false fs v
      else bindO (ser so t x) (fun j => bindO (serFields so false fs v) (fun js => .ok ((f.alias, j) :: js))) := by
  rw [serFields]; simp only [Bool.false_eq_true, if_false, hx, serFieldStep]

end Api
