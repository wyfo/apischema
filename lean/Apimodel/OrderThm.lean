import Apimodel.Order
/-! # C16: `sort_by_order` never duplicates, and never loses an anchored element -/
namespace Api
open Forest

theorem nodup_of_nodupNames {es : List Elt} (h : nodupNames es) : es.Nodup :=
  List.Pairwise.of_map (·.name) (fun _ _ hne hab => hne (hab ▸ rfl)) h

theorem find_name {es : List Elt} (h : nodupNames es) {e : Elt} (he : e ∈ es) :
    es.find? (fun x => x.name == e.name) = some e := by
  obtain ⟨s, t, rfl⟩ := List.append_of_mem he
  rw [nodupNames, List.map_append, List.map_cons, List.nodup_append] at h
  refine List.find?_eq_some_iff_append.2 ⟨beq_self_eq_true _, s, t, rfl, fun a ha => ?_⟩
  rw [Bool.not_eq_true', beq_eq_false_iff_ne]
  exact h.2.2 _ (List.mem_map_of_mem ha) _ List.mem_cons_self

theorem anchor_eq_some {c : Elt} {n : String} :
    c.anchor = some n ↔ (isBefore n c = true ∨ isAfter n c = true) := by
  unfold Elt.anchor isBefore isAfter
  cases c.ord <;> simp

theorem parent_eq_some {es : List Elt} (h : nodupNames es) {c e : Elt} (he : e ∈ es) :
    parent es c = some e ↔ c.anchor = some e.name := by
  unfold parent
  cases c.anchor with
  | none => simp
  | some s =>
    show es.find? (fun x => x.name == s) = some e ↔ some s = some e.name
    constructor
    · intro hp
      have hs := List.find?_some hp
      rw [eq_of_beq hs]
    · intro hs; cases hs; exact find_name h he

theorem parent_mem {es : List Elt} {c p : Elt} (h : parent es c = some p) : p ∈ es := by
  unfold parent at h
  split at h
  · exact List.mem_of_find?_eq_some h
  · cases h

theorem wf_of_nodupNames {es : List Elt} (h : nodupNames es) :
    Wf (parent es) (befores es) (afters es) es where
  closed := fun _ _ _ => parent_mem
  kids := by
    intro e he c
    rw [parent_eq_some h he, anchor_eq_some, befores, afters, List.mem_filter, List.mem_filter]
    exact and_or_left.symm
  preNodup := fun e => List.Pairwise.filter _ (nodup_of_nodupNames h)
  postNodup := fun e => List.Pairwise.filter _ (nodup_of_nodupNames h)
  disj := by
    intro e c hb ha
    have e1 : c.ord = .before e.name := eq_of_beq (List.mem_filter.1 hb).2
    have e2 : c.ord = .after e.name := eq_of_beq (List.mem_filter.1 ha).2
    rw [e1] at e2; cases e2

theorem insertRoot_perm (e : Elt × Int) : ∀ l, (insertRoot e l).Perm (e :: l)
  | [] => List.Perm.refl _
  | x :: xs => by
    unfold insertRoot
    split
    · exact List.Perm.refl _
    · exact ((insertRoot_perm e xs).cons x).trans (List.Perm.swap e x xs)

theorem foldl_insertRoot_perm : ∀ (l acc : List (Elt × Int)), (l.foldl (fun acc r => insertRoot r acc) acc).Perm (l ++ acc)
  | [], _ => .refl _
  | r :: l, acc =>
    ((foldl_insertRoot_perm l _).trans ((insertRoot_perm r acc).append_left l)).trans List.perm_middle

theorem map_fst_filterMap (es : List Elt) :
    (es.filterMap (fun e => e.rootValue.map (fun v => (e, v)))).map (·.1)
      = es.filter (fun e => e.rootValue.isSome) := by
  rw [List.map_filterMap, ← List.filterMap_eq_filter]
  congr 1; funext e; show _ = if e.rootValue.isSome = true then some e else none
  cases e.rootValue <;> rfl

theorem roots_perm (es : List Elt) :
    (roots es).Perm (es.filter (fun e => e.rootValue.isSome)) := by
  unfold roots
  have h := foldl_insertRoot_perm (es.filterMap (fun e => e.rootValue.map (fun v => (e, v)))) []
  rw [List.append_nil] at h
  exact (h.map (·.1)).trans (List.Perm.of_eq (map_fst_filterMap es))

theorem mem_roots {es : List Elt} {r : Elt} : r ∈ roots es ↔ r ∈ es ∧ r.rootValue.isSome = true := by
  rw [(roots_perm es).mem_iff, List.mem_filter]

theorem roots_nodup {es : List Elt} (h : nodupNames es) : (roots es).Nodup :=
  (roots_perm es).nodup_iff.2 (List.Pairwise.filter _ (nodup_of_nodupNames h))

theorem root_parent {es : List Elt} {r : Elt} (h : r.rootValue.isSome = true) : parent es r = none := by
  unfold parent Elt.anchor
  unfold Elt.rootValue at h
  cases hr : r.ord <;> simp_all

theorem roots_spec {es : List Elt} : ∀ r ∈ roots es, r ∈ es ∧ parent es r = none :=
  fun _ hr => ⟨(mem_roots.1 hr).1, root_parent (mem_roots.1 hr).2⟩

/-- **C16, never duplicates.** -/
theorem sortByOrder_nodup {es : List Elt} (h : nodupNames es) : (sortByOrder es).Nodup :=
  nodup_output (wf_of_nodupNames h) (roots_nodup h) roots_spec es.length

theorem sortByOrder_sub {es : List Elt} (h : nodupNames es) : ∀ x ∈ sortByOrder es, x ∈ es :=
  fun x hx => have ⟨_, _, hxm, _⟩ := (mem_output (wf_of_nodupNames h) (fun _ hr => (mem_roots.1 hr).1) es.length x).1 hx; hxm

theorem reachesRoot_up {es : List Elt} : ∀ n x, x ∈ es → reachesRoot es n x = true →
    ∃ r ∈ roots es, ∃ j, j < n ∧ up (parent es) j x = some r
  | 0, _, _, hx => nomatch hx
  | n+1, x, hxm, hx => by
    rw [reachesRoot, Bool.or_eq_true] at hx
    rcases hx with hroot | hrec
    · exact ⟨x, mem_roots.2 ⟨hxm, hroot⟩, 0, Nat.succ_pos n, rfl⟩
    · split at hrec
      · next p hp =>
        obtain ⟨r, hr, j, hj, hup⟩ := reachesRoot_up n p (parent_mem hp) hrec
        exact ⟨r, hr, j+1, Nat.succ_lt_succ hj, by rw [up_succ', hp]; exact hup⟩
      · cases hrec

/-- **C16, never loses:** when every `after`/`before` chain ends at an element with an order value,
    the output is a permutation of the input. -/
theorem sortByOrder_perm {es : List Elt} (h : nodupNames es) (ha : anchored es = true) :
    (sortByOrder es).Perm es :=
  perm_output (wf_of_nodupNames h) (nodup_of_nodupNames h) (roots_nodup h) roots_spec es.length
    fun x hx => reachesRoot_up es.length x hx (List.all_eq_true.1 ha x hx)

#print axioms sortByOrder_perm
#print axioms sortByOrder_nodup

/-- non-vacuity: the documentation example satisfies the hypotheses -/
example : anchored [⟨"trigram", .value (-1)⟩, ⟨"firstname", .none⟩, ⟨"lastname", .none⟩,
    ⟨"address", .after "birthdate"⟩, ⟨"birthdate", .none⟩, ⟨"age", .before "birthdate"⟩] = true := by decide +kernel

/-- `sort_by_order` drops the fields whose anchor is missing or cyclic (row 17, a finding: not repaired) -/
theorem C16_loses_counterexample :
    (sortByOrder [⟨"c", .none⟩, ⟨"e", .after "zzz"⟩, ⟨"f", .after "g"⟩, ⟨"g", .after "f"⟩]).map (·.name) = ["c"] := by
  decide +kernel

end Api
