import Apimodel.Rec
/-! # The sequential recursion analysis (`RecursiveChecker.visit`), as a function of the history of `is_recursive` calls

`Api.Rec.step` is one atomic step of one checker.  This file runs it to completion, one analysis after the other (what the
lock of `is_recursive` guarantees: `C20_mutex`), over any history of calls, and states what the answers mean on the type graph:
`onCycleB g n` — `n` reaches itself by at least one edge.  `RecursiveConversionsVisitor.visit` hands every type answered `False`
to a fresh visitor (`visit_not_recursive`), which knows nothing of the lazy methods of its caller: an answer `False` for a type
that lies on a cycle is an unbounded recursion while the method is compiled (`RecursionError`), so the answers must be *exact*.

`stepEarly` is the exit of `visit` as it was before the repair of row 96 (a head wrote its cycle as soon as it returned, even
when that cycle was part of a bigger one still being explored); `early_write_counterexample` replays the defect. -/
namespace Api.Rec

def stepEarly (g : Graph) (c : Cache) (l : Local) : Cache × Local :=
  match l.writes with
  | (k, b) :: ws => (c.set k b, { l with writes := ws })
  | [] =>
    match l.start with
    | some n => (c, enter g c { l with start := none } n)
    | none =>
      match l.stack with
      | [] => (c, l)
      | ⟨n, []⟩ :: rest => (c, { l with stack := rest, writes := exitWrites l n })
      | ⟨n, ch :: todo⟩ :: rest => (c, enter g c { l with stack := ⟨n, todo⟩ :: rest } ch)

/-- run one checker until its call has returned (fuel: an upper bound on the number of steps) -/
def runLocal (st : Graph → Cache → Local → Cache × Local) (g : Graph) : Nat → Cache → Local → Cache × Local
  | 0, c, l => (c, l)
  | fuel + 1, c, l => if l.done then (c, l) else runLocal st g fuel (st g c l).1 (st g c l).2

/-- `is_recursive(n)`: a memo hit answers at once, otherwise one complete analysis from `n` -/
def analyseSeq (st : Graph → Cache → Local → Cache × Local) (g : Graph) (fuel : Nat) (c : Cache) (n : Node) : Cache :=
  if (c.get? n).isSome then c else (runLocal st g fuel c { start := some n }).1

/-- a history of `is_recursive` calls on one memo -/
def history (st : Graph → Cache → Local → Cache × Local) (g : Graph) (fuel : Nat) (starts : List Node) : Cache :=
  starts.foldl (analyseSeq st g fuel) []

/-- nodes reachable from the nodes of `front` in at most `k` further edges (breadth-first, `front` included) -/
def reachFrom (g : Graph) : Nat → List Node → List Node
  | 0, front => front
  | k + 1, front => front ++ reachFrom g k (front.flatMap (children g))

/-- `n` lies on a cycle: one of its children reaches it (paths of at most `|g|` edges suffice) -/
def onCycleB (g : Graph) (n : Node) : Bool := (reachFrom g g.length (children g n)).contains n

def exact (g : Graph) (c : Cache) : Bool := c.all (fun p => p.2 == onCycleB g p.1)

/-! ## the defect of row 96, replayed

`HP(h: H, q: Q)`, `H(x: X)`, `X(h: H, y: Y)`, `Y(hp: HP)`, `Q(x: X)`: the cycle `H → X → H` is found and written when `H`
returns, while `X` also belongs to the cycle through `Y` and `HP` that is still open; `Q`, visited next, finds `X` in the memo,
does not look further, and is written non-recursive although `Q → X → Y → HP → Q`. -/
def g1 : Graph := [(0, [1, 4]), (1, [2]), (2, [1, 3]), (3, [0]), (4, [2])]

theorem early_write_counterexample :
    (history stepEarly g1 200 [0]).get? 4 = some false ∧ onCycleB g1 4 = true := by decide +kernel

/-- the same history under the repaired exit: every answer exact (an evaluation on the example, not the general claim) -/
theorem g1_repaired_exact : exact g1 (history step g1 200 [0]) = true ∧ (history step g1 200 [0]).get? 4 = some true := by
  decide +kernel

/-- and from the other end: `Q` first, then `HP` (evaluation) -/
theorem g1_repaired_exact' : exact g1 (history step g1 200 [4, 0]) = true := by decide +kernel

end Api.Rec

/-! ## what a wrong `False` costs: the consumer of the answers

`RecursiveConversionsVisitor.visit`: a type answered `True` gets a placeholder in the visitor's own cache while its children are compiled (a second
visit returns the placeholder); a type answered `False` is compiled by a *fresh* visitor (`visit_not_recursive` → the method factory), whose cache is
empty.  `compileDepth` is the depth of that recursion under a bound (`none`: the bound was exceeded — Python's `RecursionError`).  It ignores the `_first_visit` flag (`compileF` below has it, and is
what the correspondence compares with the code). -/
namespace Api.Rec

/-- the deepest of the visits of the children, `none` as soon as one of them exceeds the bound (the later ones are not visited: the exception propagates) -/
def deepest (f : Node → Option Nat) : List Node → Option Nat
  | [] => some 0
  | x :: xs => match f x with
    | none => none
    | some a => (deepest f xs).map (Nat.max a)

def compileDepth (g : Graph) (memo : Cache) : Nat → List Node → Node → Option Nat
  | 0, _, _ => none
  | fuel + 1, vc, n =>
    if memo.get? n == some true then
      if vc.contains n then some 0                                  -- the placeholder of the visit in progress
      else (deepest (compileDepth g memo fuel (n :: vc)) (children g n)).map (· + 1)
    else (deepest (compileDepth g memo fuel []) (children g n)).map (· + 1)   -- a fresh visitor

/-! ### the same with the `_first_visit` flag

The flag is an attribute of the visitor: the first non-recursive type met while it is set is compiled in place (with the visitor's current cache) and clears it;
`visit_with_conv` - every field of an object - restores the attributes of the visitor when it returns (`context_setter`), the flag included, while the elements of
collections, mappings and unions are visited one after the other on the same attributes.  `objs`: the nodes whose children are visited that way. -/

def visitKids (f : Bool → Node → Option (Nat × Bool)) (restore : Bool) : Bool → List Node → Option (Nat × Bool)
  | first, [] => some (0, first)
  | first, x :: xs =>
    match f first x with
    | none => none
    | some (d, first') => (visitKids f restore (if restore then first else first') xs).map (fun r => (Nat.max d r.1, r.2))

def compileF (g : Graph) (objs : List Node) (memo : Cache) : Nat → List Node → Bool → Node → Option (Nat × Bool)
  | 0, _, _, _ => none
  | fuel + 1, vc, first, n =>
    if memo.get? n == some true then
      if vc.contains n then some (0, first)
      else (visitKids (compileF g objs memo fuel (n :: vc)) (objs.contains n) first (children g n)).map (fun r => (r.1 + 1, r.2))
    else if first then                                              -- in place, the flag cleared
      (visitKids (compileF g objs memo fuel vc) (objs.contains n) false (children g n)).map (fun r => (r.1 + 1, r.2))
    else                                                            -- a fresh visitor (its own cache and flag); the caller's flag is untouched
      (visitKids (compileF g objs memo fuel []) (objs.contains n) false (children g n)).map (fun r => (r.1 + 2, first))

/-- row 96 in the model: with the memo left by the former exit (`Q` answered `False` on a cycle) compiling `HP` exceeds any reasonable bound
    (here 60 nested visits for five classes), with the repaired memo the recursion is four deep (evaluations on the example graph) -/
theorem wrong_false_overflows :
    compileDepth g1 (history stepEarly g1 200 [0]) 60 [] 0 = none ∧ compileDepth g1 (history step g1 200 [0]) 60 [] 0 = some 4 := by
  decide +kernel

/-- the type graph of the five classes of row 96 as the checker keys it: `HP` = 0, `int` = 1, `Optional[H]` = 2, `H` = 3, `Optional[X]` = 4, `X` = 5,
    `Optional[Y]` = 6, `Y` = 7, `Optional[HP]` = 8, `NoneType` = 9, `Optional[Q]` = 10, `Q` = 11 (every class has a field `v: int` first) -/
def g1t : Graph := [(0, [1, 2, 10]), (1, []), (2, [3, 9]), (3, [1, 4]), (4, [5, 9]), (5, [1, 2, 6]), (6, [7, 9]), (7, [1, 8]), (8, [0, 9]), (9, []),
                    (10, [11, 9]), (11, [1, 4])]
def g1tObjects : List Node := [0, 3, 5, 7, 11]

/-- the replay with the flag on the real type graph: the former exit answers `False` for `Optional[Q]` and `Q`, which lie on a cycle, and compiling `HP`
    exceeds the bound; with the repaired exit every answer is exact and the compilation returns (evaluations on the example) -/
theorem wrong_false_overflows_flag :
    (history stepEarly g1t 500 [0]).get? 11 = some false ∧ onCycleB g1t 11 = true ∧
    compileF g1t g1tObjects (history stepEarly g1t 500 [0]) 46 [] true 0 = none ∧
    exact g1t (history step g1t 500 [0]) = true ∧
    (compileF g1t g1tObjects (history step g1t 500 [0]) 46 [] true 0).isSome = true := by
  decide +kernel

end Api.Rec
