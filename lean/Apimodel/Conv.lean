/-!
# C12: conversions compose — resolution order and locality

A small model of `ConversionsVisitor.visit` / `_visit_conversion`: at a class, a *dynamic* conversion that applies to it is
used (and consumed), otherwise the *registered* conversions of the class, otherwise the class itself; `identity` bypasses
the registered ones; several deserializers are tried in registration order; a dynamic conversion is kept through
arrays and `Optional` (the containers and unions of this model) and dropped at object fields.  Converters, the data and the behaviour of source types are
parameters.
-/
namespace Api.Conv

abbrev D := Nat            -- opaque data
abbrev V := Nat            -- opaque values
abbrev Cls := Nat

inductive Out where
  | ok (v : V) | invalid (msgs : List (List Nat × String))
  deriving DecidableEq, Repr

inductive Ty where
  | src (s : Nat)                       -- a source type: its deserialization is a parameter
  | cls (c : Cls)                       -- a class that may have conversions
  | list (t : Ty) | opt (t : Ty)
  | obj (c : Cls) (fields : List Ty)
  deriving Repr

/-- a deserializer `source -> target`; `catches`: `ValueError` is turned into a `ValidationError` -/
structure Conv where
  target : Cls
  source : Ty
  f : V → Option V              -- `none` = raises `ValueError`
  catches : Bool := true

structure World where
  /-- deserialization of source types and of plain (unconverted) classes -/
  base : Nat → D → Out
  plain : Cls → D → Out
  /-- registered deserializers per class, in registration order -/
  registered : Cls → List Conv
  /-- elements of an array datum / is the datum null / field data of an object datum -/
  elems : D → Option (List D)
  isNull : D → Bool
  fieldData : D → Nat → D
  /-- assembling values (uninterpreted) -/
  mkList : List V → V
  mkObj : Cls → List V → V
  none_ : V

inductive Dyn where
  | none | identity | conv (c : Conv)

def prefix_ (i : Nat) : Out → Out
  | .ok v => .ok v
  | .invalid ms => .invalid (ms.map (fun m => (i :: m.1, m.2)))

def apply (c : Conv) : Out → Out
  | .ok v => match c.f v with
      | some w => .ok w
      | none => .invalid [([], "ValueError")]       -- (a non-catching converter lets the exception escape: not modelled)
  | .invalid ms => .invalid ms

def merge (a b : Out) : Out :=
  match a, b with
  | .ok v, _ => .ok v
  | .invalid _, .ok v => .ok v
  | .invalid m1, .invalid m2 => .invalid (m1 ++ m2)

def tryAll (fs : List (D → Out)) (d : D) : Out :=
  match fs with
  | [] => .invalid []
  | [f] => f d
  | f :: rest => merge (f d) (tryAll rest d)

def collect (f : D → Out) : Nat → List D → List V × List (List Nat × String)
  | _, [] => ([], [])
  | i, x :: xs =>
    let (vs, es) := collect f (i + 1) xs
    match prefix_ i (f x) with
    | .ok v => (v :: vs, es)
    | .invalid ms => (vs, ms ++ es)

/-- the registered deserializers, in registration order (`k` deserializes through one of them) -/
def atRegistered (plain : D → Out) (k : Conv → D → Out) : List Conv → D → Out
  | [], d => plain d
  | [cv], d => k cv d
  | cv :: rest, d => merge (k cv d) (atRegistered plain k rest d)

/-- the fields of an object, each under its index (`k` deserializes one field type) -/
def fieldsD (w : World) (k : Ty → D → Out) : List Ty → Nat → D → List V × List (List Nat × String)
  | [], _, _ => ([], [])
  | t :: ts, i, d =>
    let r := fieldsD w k ts (i + 1) d
    match prefix_ i (k t (w.fieldData d i)) with
    | .ok v => (v :: r.1, r.2)
    | .invalid ms => (r.1, ms ++ r.2)

/-- `fuel` bounds the nesting of types and the chains of conversions (a source may itself be a converted class) -/
def deser (w : World) : Nat → Dyn → Ty → D → Out
  | 0, _, _, _ => .invalid [([], "fuel")]
  | _ + 1, _, .src s, d => w.base s d
  | n + 1, dyn, .cls c, d =>
      match dyn with
      | .identity => w.plain c d
      | .conv cv => if cv.target = c then apply cv (deser w n .none cv.source d)
                    else atRegistered (w.plain c) (fun cv d => apply cv (deser w n .none cv.source d)) (w.registered c) d
      | .none => atRegistered (w.plain c) (fun cv d => apply cv (deser w n .none cv.source d)) (w.registered c) d
  | n + 1, dyn, .list t, d =>
      match w.elems d with
      | some xs => let r := collect (fun x => deser w n dyn t x) 0 xs
                   if r.2.isEmpty then .ok (w.mkList r.1) else .invalid r.2
      | none => .invalid [([], "expected array")]
  | n + 1, dyn, .opt t, d => if w.isNull d then .ok w.none_ else deser w n dyn t d
  | n + 1, _, .obj c fs, d =>
      -- fields of a nested object: the dynamic conversion is dropped
      let r := fieldsD w (fun t x => deser w n .none t x) fs 0 d
      if r.2.isEmpty then .ok (w.mkObj c r.1) else .invalid r.2
termination_by structural n => n

/-- **C12, registered square.** With one registered deserializer `f : S -> C`, `deserialize(C, d)` is
    `f(deserialize(S, d))`: same rejections with the same errors, `ValueError` as a `ValidationError` at the datum. -/
theorem C12_registered_square (w : World) (n : Nat) (c : Cls) (cv : Conv) (h : w.registered c = [cv]) (d : D) :
    deser w (n + 1) .none (.cls c) d = apply cv (deser w n .none cv.source d) := by
  simp only [deser, h, atRegistered]

/-- several deserializers are tried in registration order, the first accepting one wins, errors are merged -/
theorem C12_registration_order (w : World) (n : Nat) (c : Cls) (cv1 cv2 : Conv) (h : w.registered c = [cv1, cv2]) (d : D) :
    deser w (n + 1) .none (.cls c) d
      = merge (apply cv1 (deser w n .none cv1.source d)) (apply cv2 (deser w n .none cv2.source d)) := by
  simp only [deser, h, atRegistered]

/-- **dynamic square**: a dynamic conversion that targets the class replaces the registered ones and is consumed -/
theorem C12_dynamic_square (w : World) (n : Nat) (cv : Conv) (d : D) :
    deser w (n + 1) (.conv cv) (.cls cv.target) d = apply cv (deser w n .none cv.source d) :=
  if_pos rfl

/-- `identity` bypasses the registered conversions -/
theorem C12_identity (w : World) (n : Nat) (c : Cls) (d : D) :
    deser w (n + 1) .identity (.cls c) d = w.plain c d := rfl

/-- **locality**: a dynamic conversion does not reach into the fields of a nested object -/
theorem C12_locality (w : World) (n : Nat) (dyn : Dyn) (c : Cls) (fs : List Ty) (d : D) :
    deser w n dyn (.obj c fs) d = deser w n .none (.obj c fs) d := by
  cases n <;> rfl

/-- ... but it reaches through `Optional` -/
theorem C12_through_optional (w : World) (n : Nat) (dyn : Dyn) (t : Ty) (d : D) (h : w.isNull d = false) :
    deser w (n + 1) dyn (.opt t) d = deser w n dyn t d := by
  simp [deser, h]

/-- ... and through arrays: the element results, each under its index -/
theorem C12_through_list (w : World) (n : Nat) (dyn : Dyn) (t : Ty) (d : D) (xs : List D) (h : w.elems d = some xs) :
    deser w (n + 1) dyn (.list t) d =
      (let r := collect (fun x => deser w n dyn t x) 0 xs
       if r.2.isEmpty then .ok (w.mkList r.1) else .invalid r.2) := by
  simp only [deser, h]

/-- a conversion rejects exactly what its source rejects, plus the converter's `ValueError` -/
theorem C12_rejects (cv : Conv) (r : Out) :
    (∃ ms, apply cv r = .invalid ms) ↔ (∃ ms, r = .invalid ms) ∨ (∃ v, r = .ok v ∧ cv.f v = none) := by
  cases r with
  | ok v =>
    cases hf : cv.f v <;> simp [apply, hf]
  | invalid ms => simp [apply]

/-! ## serialization side: which serializer a class gets (`default_serialization`: walk up the MRO) -/

structure SerReg where
  /-- the direct base class (single inheritance suffices for the law) -/
  parent : Cls → Option Cls
  /-- registered serializer of a class: (converter id, `inherited` flag) -/
  serializer : Cls → Option (Nat × Bool)

/-- the serializer used for a value whose class is `c`: its own, or the closest ancestor's registered with
    `inherited=True`; an ancestor's serializer registered with `inherited=False` applies to that ancestor only and
    does *not* stop the walk (`fuel` bounds the height of the hierarchy) -/
def serializerOf (r : SerReg) : Nat → Cls → Bool → Option Nat
  | 0, _, _ => none
  | n + 1, c, own =>
      match r.serializer c with
      | some (k, inh) => if own || inh then some k else
          (match r.parent c with | some p => serializerOf r n p false | none => none)
      | none => match r.parent c with | some p => serializerOf r n p false | none => none

theorem C12_own_serializer (r : SerReg) (n : Nat) (c : Cls) (k : Nat) (inh : Bool) (h : r.serializer c = some (k, inh)) :
    serializerOf r (n + 1) c true = some k := by
  simp [serializerOf, h]

/-- **inheritance**: a subclass without a serializer gets what its parent's subclasses inherit -/
theorem C12_inherits (r : SerReg) (n : Nat) (c p : Cls) (hs : r.serializer c = none) (hp : r.parent c = some p) (own : Bool) :
    serializerOf r (n + 1) c own = serializerOf r n p false := by
  simp [serializerOf, hs, hp]

/-- a serializer registered with `inherited=False` on an intermediate class is skipped by the subclasses of that class:
    they inherit from further up -/
theorem C12_not_inherited_is_skipped (r : SerReg) (n : Nat) (b a : Cls) (k : Nat)
    (hb : r.serializer b = some (k, false)) (hp : r.parent b = some a) :
    serializerOf r (n + 1) b false = serializerOf r n a false := by
  simp [serializerOf, hb, hp]

/-- the three-level witness: `A` (inherited serializer 1) <- `B` (own serializer 2, `inherited=False`) <- `C` (none):
    `B` uses 2, `C` uses 1 -/
def regABC : SerReg :=
  { parent := fun c => if c = 2 then some 1 else if c = 1 then some 0 else none,
    serializer := fun c => if c = 0 then some (1, true) else if c = 1 then some (2, false) else none }
example : serializerOf regABC 5 1 true = some 2 ∧ serializerOf regABC 5 2 true = some 1 ∧ serializerOf regABC 5 0 true = some 1 := by decide +kernel

end Api.Conv
