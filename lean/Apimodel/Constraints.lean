import Apimodel.PyEq
/-! # `constraints_validators` / `validate_constraints`: failing rules per JSON class -/
namespace Api

def optRule {α} (o : Option α) (ok : α → Bool) (r : α → Rule) : List Rule :=
  match o with
  | none => []
  | some a => if ok a then [] else [r a]

/-- number constraints (they apply to `float` and, by the `result[int] = result[float]` copy, to `int`) -/
def Constraints.numErrors (c : Constraints) (x : Num) : List Rule :=
  optRule c.min (fun m => m.le x) .minimum ++
  optRule c.max (fun m => x.le m) .maximum ++
  optRule c.excMin (fun m => m.lt x) .exclusiveMinimum ++
  optRule c.excMax (fun m => x.lt m) .exclusiveMaximum ++
  optRule c.multOf (fun m => x.isMultipleOf m) .multipleOf

def Constraints.hasNum (c : Constraints) : Bool :=
  c.min.isSome || c.max.isSome || c.excMin.isSome || c.excMax.isSome || c.multOf.isSome

def Constraints.strErrors (c : Constraints) (s : String) : List Rule :=
  optRule c.minLen (fun n => n ≤ s.length) .minLength ++
  optRule c.maxLen (fun n => s.length ≤ n) .maxLength ++
  optRule c.pattern (fun p => p.isMatch s) (fun p => .pattern p.source)

def Constraints.hasStr (c : Constraints) : Bool :=
  c.minLen.isSome || c.maxLen.isSome || c.pattern.isSome

/-- `to_hashable` images -/
inductive HK where
  | null | num (n : Num) | str (s : String) | tup (xs : List HK) | other (c : String)
  deriving Repr, Inhabited

mutual
def HK.eq : HK → HK → Bool
  | .null, .null => true
  | .num a, .num b => a.eq b
  | .str a, .str b => a == b
  | .tup a, .tup b => HK.eqL a b
  | .other a, .other b => a == b
  | _, _ => false
termination_by structural a => a
def HK.eqL : List HK → List HK → Bool
  | [], [] => true
  | a :: as, b :: bs => a.eq b && HK.eqL as bs
  | _, _ => false
termination_by structural as => as
end

/-- insertion sort of string keys (`sorted(data)`) -/
def insertStr (s : String) : List String → List String
  | [] => [s]
  | x :: xs => if s < x then s :: x :: xs else x :: insertStr s xs
def sortStrs (l : List String) : List String := l.foldr insertStr []

mutual
/-- `to_hashable`; `none` stands for `TypeError`, and is never returned: every leaf of the model is hashable (`Py.hashable (.other _) = true`) -/
def toHashable : Py → Option HK
  | .null => some .null
  | .bool b => some (.num (.int (if b then 1 else 0)))
  | .int i => some (.num (.int i))
  | .float f => some (.num (.flt f))
  | .str s => some (.str s)
  | .list xs => (toHashableL xs).map .tup
  | .dict kvs =>
      -- `frozenset((key, to_hashable(value)) ...)`: an object is not an array, and the order of its keys does not count
      -- (canonical form: the pairs sorted by key, behind a marker that no array image carries)
      (toHashableK kvs).map (fun vs =>
        let ks := sortStrs (kvs.map (·.1))
        .tup (.other "frozenset" :: ks.filterMap (fun k => (vs.find? (·.1 == k)).map (fun p => .tup [.str k, p.2]))))
  | .dictNS _ => some (.other "frozenset of pairs with non-string keys (not modelled)")
  | .other c => some (.other c)
termination_by structural d => d
def toHashableL : List Py → Option (List HK)
  | [] => some []
  | x :: xs => match toHashable x, toHashableL xs with
    | some h, some hs => some (h :: hs)
    | _, _ => Option.none
termination_by structural xs => xs
def toHashableK : List (String × Py) → Option (List (String × HK))
  | [] => some []
  | (k, v) :: kvs => match toHashable v, toHashableK kvs with
    | some h, some hs => some ((k, h) :: hs)
    | _, _ => Option.none
termination_by structural kvs => kvs
end

def distinctCount : List HK → Nat
  | [] => 0
  | h :: hs => (if hs.any (fun g => g.eq h) then 0 else 1) + distinctCount hs

/-- list constraints; `none` = crash (`TypeError`) while computing `uniqueItems` (as `toHashable` never fails, never returned) -/
def Constraints.listErrors (c : Constraints) (xs : List Py) : Option (List Rule) :=
  let a := optRule c.minItems (fun n => n ≤ xs.length) .minItems ++
           optRule c.maxItems (fun n => xs.length ≤ n) .maxItems
  if c.unique then
    match toHashableL xs with
    | some hs => some (a ++ (if distinctCount hs == xs.length then [] else [.uniqueItems]))
    | Option.none => Option.none
  else some a

def Constraints.dictErrors (c : Constraints) (n : Nat) : List Rule :=
  optRule c.minProps (fun m => m ≤ n) .minProperties ++
  optRule c.maxProps (fun m => n ≤ m) .maxProperties

def Constraints.hasDict (c : Constraints) : Bool := c.minProps.isSome || c.maxProps.isSome

def minOpt {α} (le : α → α → Bool) (a b : Option α) (pickFirstIfLe : Bool) : Option α :=
  match a, b with
  | none, b => b
  | a, none => a
  | some x, some y => if le x y == pickFirstIfLe then some x else some y

/-- `merge_constraints`: the most restrictive of both bounds; of two `multipleOf` or two patterns the model keeps the left one
    (apischema takes the least common multiple of integers and raises `TypeError` otherwise, and on two patterns) -/
def Constraints.merge (a b : Constraints) : Constraints where
  min := minOpt Num.le a.min b.min false
  max := minOpt Num.le a.max b.max true
  excMin := minOpt Num.le a.excMin b.excMin false
  excMax := minOpt Num.le a.excMax b.excMax true
  multOf := match a.multOf, b.multOf with
    | none, m => m | m, none => m | some x, some _ => some x
  minLen := minOpt (fun x y => decide (x ≤ y)) a.minLen b.minLen false
  maxLen := minOpt (fun x y => decide (x ≤ y)) a.maxLen b.maxLen true
  pattern := match a.pattern with | some p => some p | none => b.pattern
  minItems := minOpt (fun x y => decide (x ≤ y)) a.minItems b.minItems false
  maxItems := minOpt (fun x y => decide (x ≤ y)) a.maxItems b.maxItems true
  unique := a.unique || b.unique
  minProps := minOpt (fun x y => decide (x ≤ y)) a.minProps b.minProps false
  maxProps := minOpt (fun x y => decide (x ≤ y)) a.maxProps b.maxProps true

end Api
