import Apimodel.UnionThm
/-! # C14: coercion only widens acceptance -/
namespace Api

theorem coerce_instance (env : CoerceEnv) (c : JClass) (d : Py) (h : d.isInstance c = true) :
    coerce env c d = .ok d := by
  revert h
  fun_cases Py.isInstance d c <;> intro h <;> first | rfl | cases h

theorem isCrash_coerce (env : CoerceEnv) (c : JClass) (d : Py) : (coerce env c d).isCrash = false := by
  fun_cases coerce env c d <;> first | rfl | (rename_i f; cases f <;> rfl)

def Py.isPrim : Py → Bool
  | .null | .bool _ | .int _ | .float _ | .str _ => true
  | _ => false

/-- the documented table of conversions: `''` to `None`; a boolean word or an integer to `bool`; a string or a float to
    `int`; a string or an integer to `float`; a number to `str`.  Nothing else - in particular no `bool` where a number
    is expected - is ever converted. -/
def inCoerceTable (env : CoerceEnv) : JClass → Py → Bool
  | .null, .str s => s == ""
  | .bool, .str s => (assoc? s.toLower env.boolWords).isSome
  | .bool, .int _ => true
  | .int, .float _ | .int, .str _ => true
  | .float, .int _ | .float, .str _ => true
  | .str, .int _ | .str, .float _ => true
  | _, _ => false

theorem coerce_ok_cases (env : CoerceEnv) (c : JClass) (d d' : Py) (h : coerce env c d = .ok d') :
    d' = d ∨ (inCoerceTable env c d = true ∧ d.isPrim = true ∧ d'.isPrim = true) := by
  revert h
  -- a branch of `coerce` is `bad_type` (no value), returns the datum as it is, or is a row of the table
  fun_cases coerce env c d <;> intro h <;> first
    | (cases h; done)
    | (cases h; exact Or.inl rfl)
    | (cases h; exact Or.inr ⟨rfl, rfl, rfl⟩)
    | (cases h; exact Or.inr ⟨‹_›, rfl, rfl⟩)
    | (rename_i hb; cases h; exact Or.inr ⟨by simp [inCoerceTable, hb], rfl, rfl⟩)
    | (rename_i f; cases f <;> cases h; exact Or.inr ⟨rfl, rfl, rfl⟩)

/-- **C14 (what may be converted).** Whatever `coerce` returns is the datum itself or a primitive made
    from a primitive. -/
theorem coerce_prim (env : CoerceEnv) (c : JClass) (d d' : Py) (h : coerce env c d = .ok d') :
    d' = d ∨ (d.isPrim = true ∧ d'.isPrim = true) :=
  (coerce_ok_cases env c d d' h).imp_right (·.2)

/-- **C14 (the table).** A datum that `coerce` accepts is returned as it is, or is one of the documented
    (expected class, datum) conversions. -/
theorem C14_coerce_table (env : CoerceEnv) (c : JClass) (d d' : Py) (h : coerce env c d = .ok d') :
    d' = d ∨ inCoerceTable env c d = true :=
  (coerce_ok_cases env c d d' h).imp_right (·.1)

/-- a boolean is converted to no number, and no number other than an integer to a boolean -/
example (env : CoerceEnv) : (coerce env .float (.bool true)).isOk = false ∧ (coerce env .bool (.float (.fin 1))).isOk = false ∧
    coerce env .int (.bool true) = .ok (.bool true) := ⟨rfl, rfl, rfl⟩

theorem run_coerced_ok {env c m d d'} (h : coerce env c d = .ok d') :
    run (.coerced env c m) d = run m d' := by
  rw [run, h]; rfl

def Mono (m m' : Meth) : Prop := ∀ d, d.wf = true → (run m d).isOk = true → (run m' d).isOk = true

/-- `Mono` is `MonoOn (·.wf = true)` by unfolding; the proofs pass from one to the other silently (`mono_listSel wf_dom`) -/
def MonoOn (D : Py → Prop) (m m' : Meth) : Prop := ∀ d, D d → (run m d).isOk = true → (run m' d).isOk = true

theorem Mono.refl (m : Meth) : Mono m m := fun _ _ h => h

theorem all_mono_mem {α} {l : List α} {p q : α → Bool} (h : ∀ a ∈ l, p a = true → q a = true)
    (hp : l.all p = true) : l.all q = true :=
  List.all_eq_true.2 fun a ha => h a ha (List.all_eq_true.1 hp a ha)

theorem listOk_mono {c d} {p q : Py → Bool} (h : ∀ xs, d = .list xs → ∀ x ∈ xs, p x = true → q x = true)
    (hp : listOk c d p = true) : listOk c d q = true := by
  cases d <;> try (cases hp)
  case list xs =>
    rw [listOk, Bool.and_eq_true] at hp ⊢
    exact ⟨hp.1, all_mono_mem (h xs rfl) hp.2⟩

theorem tupleOk_mono {c d n} {p q : List Py → Bool} (h : ∀ xs, d = .list xs → p xs = true → q xs = true)
    (hp : tupleOk c d n p = true) : tupleOk c d n q = true := by
  cases d <;> try (cases hp)
  case list xs =>
    rw [tupleOk, Bool.and_eq_true] at hp ⊢
    exact ⟨hp.1, h xs rfl hp.2⟩

theorem dictOk_mono_mem {c d} {p q : List (String × Py) → Bool} (h : ∀ kvs, d = .dict kvs → p kvs = true → q kvs = true)
    (hp : dictOk c d p = true) : dictOk c d q = true := by
  cases d <;> try (cases hp)
  case dict kvs =>
    rw [dictOk, Bool.and_eq_true] at hp ⊢
    exact ⟨hp.1, h kvs rfl hp.2⟩

theorem dictOk_mono {c d} {p q : List (String × Py) → Bool} (h : ∀ x, p x = true → q x = true)
    (hp : dictOk c d p = true) : dictOk c d q = true :=
  dictOk_mono_mem (fun kvs _ => h kvs) hp

abbrev MonoL := All2 Mono

theorem mono_vtuple {D : Py → Prop} {m m' : Meth} (h : MonoOn D m m') : MonoOn D (.vtuple m) (.vtuple m') := by
  intro d hd hok
  rw [run, isOk_mapVal_tuple] at hok ⊢
  exact h d hd hok

section
variable {D : Py → Prop} (hD : DataDom D)
include hD

theorem mono_listSel {o : DOpts} {c : Constraints} {m m' : Meth} (h : MonoOn D m m') :
    MonoOn D (listSel o c m) (listSel o c m') := by
  intro d hd hok
  rw [isOk_listSel] at hok ⊢
  exact listOk_mono (fun xs hxs x hx => h x (hD.list (hxs ▸ hd) x hx)) hok

theorem mono_tuple {c : Constraints} {ts : List Ty} {g g' : Ty → Meth} (h : ∀ t ∈ ts, MonoOn D (g t) (g' t)) :
    MonoOn D (.tuple false c (ts.map g)) (.tuple false c (ts.map g')) := by
  intro d hd hok
  rw [isOk_tuple, List.length_map] at hok ⊢
  refine tupleOk_mono (fun xs hxs => ?_) hok
  simp only [zipOkM, List.zip_map_left, List.all_map]
  exact all_mono_mem fun tx htx => h tx.1 (List.of_mem_zip htx).1 tx.2 (hD.list (hxs ▸ hd) _ (List.of_mem_zip htx).2)

theorem mono_mappingSel {o : DOpts} {c : Constraints} {k k' v v' : Meth} (hk : MonoOn D k k') (hv : MonoOn D v v') :
    MonoOn D (mappingSel o c k v) (mappingSel o c k' v') := by
  intro d hd hok
  rw [isOk_mappingSel] at hok ⊢
  refine dictOk_mono_mem (fun kvs hkvs => all_mono_mem fun kv hkv => ?_) hok
  rw [Bool.and_eq_true, Bool.and_eq_true]
  exact And.imp (hk _ (hD.str _)) (hv _ ((hD.dict (hkvs ▸ hd)).2 kv hkv))
end

theorem isOk_optionalC_of (env : CoerceEnv) (m : Meth) (d : Py) (h : d.isNull = true ∨ (run m d).isOk = true) :
    (run (.optionalC env m) d).isOk = true := by
  rw [run]
  by_cases hn : d.isNull = true
  · rw [if_pos hn]; rfl
  · obtain ⟨v, hv⟩ := isOk_iff.1 (h.resolve_left hn)
    rw [if_neg hn, hv]; rfl

theorem runLiteralC_of_ok (env : CoerceEnv) (vs en d) (h : (runLiteral vs en d).isOk = true) :
    runLiteralC env vs en d = runLiteral vs en d := by
  rw [isOk_runLiteral, Bool.and_eq_true] at h
  unfold runLiteralC
  simp only [h.1, Bool.not_true, Bool.false_eq_true, if_false]
  have hm := lastMatch_isSome d vs 0 Option.none
  rw [h.2] at hm
  cases hl : runLiteral.lastMatch d vs 0 Option.none with
  | some p => rfl
  | none => rw [hl] at hm; cases hm

abbrev MonoF := All2 (fun (a b : FieldInfo × Meth) => a.1 = b.1 ∧ Mono a.2 b.2)

theorem isOk_objSel_M {o : DOpts} {ci c} {ms : List (FieldInfo × Meth)} (hnf : NoFbod ms)
    (ha : (aliasesM ms).Nodup) (d : Py) (hw : d.wf = true) :
    (run (objSel o ci c ms) d).isOk
      = dictOk c d (fun kvs => fieldsOkM ms kvs && noUnexpected o.additionalProperties (aliasesM ms) kvs
                                && depOk (infosM ms) kvs) :=
  isOk_objSel hnf ha d fun _ hkvs => (wf_dom.dict (hkvs ▸ hw)).1

abbrev MonoFOn (D : Py → Prop) := All2 (fun (a b : FieldInfo × Meth) => a.1 = b.1 ∧ MonoOn D a.2 b.2)

theorem monoF_nofbod {D} {ms ms' : List (FieldInfo × Meth)} (h : MonoFOn D ms ms') (hn : NoFbod ms) : NoFbod ms' :=
  h.forall_imp (fun _ _ hab ha => hab.1 ▸ ha) hn

theorem fieldOk0_mono {req : Bool} {o : Option Py} {p q : Py → Bool} (h : ∀ x, o = some x → p x = true → q x = true)
    (hp : fieldOk0 req o p = true) : fieldOk0 req o q = true := by
  cases o with
  | none => exact hp
  | some x => exact h x rfl hp

theorem fieldsOkM_monoOn {D} {ms ms' : List (FieldInfo × Meth)} (h : MonoFOn D ms ms') {kvs : List (String × Py)}
    (hkvs : ∀ kv ∈ kvs, D kv.2) (hok : fieldsOkM ms kvs = true) : fieldsOkM ms' kvs = true :=
  List.all_eq_true.2 <| h.forall_imp (fun a b hab ha => by
    rw [← hab.1]; exact fieldOk0_mono (fun x hl => hab.2 x (hkvs _ (lookupKey_mem hl))) ha) (List.all_eq_true.1 hok)

theorem fieldsOkM_mono {ms ms' : List (FieldInfo × Meth)} (h : MonoF ms ms') (kvs : List (String × Py))
    (hw : wfK kvs = true) (hok : fieldsOkM ms kvs = true) : fieldsOkM ms' kvs = true :=
  fieldsOkM_monoOn h (wfK_iff.1 hw) hok

theorem monoOn_objSel {D} (hD : DataDom D) {o : DOpts} {ci c} {ms ms' : List (FieldInfo × Meth)} (h : MonoFOn D ms ms')
    (hnf : NoFbod ms) (ha : (aliasesM ms).Nodup) : MonoOn D (objSel o ci c ms) (objSel o ci c ms') := by
  intro d hd hok
  have hk : ∀ kvs, d = .dict kvs → (keysOf kvs).Nodup := fun kvs hkvs => (hD.dict (hkvs ▸ hd)).1
  rw [isOk_objSel hnf ha d hk] at hok
  rw [isOk_objSel (monoF_nofbod h hnf) (aliasesM_eq_of_All2 h ▸ ha) d hk, ← aliasesM_eq_of_All2 h, ← infosM_eq_of_All2 h]
  refine dictOk_mono_mem (fun kvs hkvs hp => ?_) hok
  rw [Bool.and_eq_true, Bool.and_eq_true] at hp ⊢
  exact ⟨⟨fieldsOkM_monoOn h (hD.dict (hkvs ▸ hd)).2 hp.1.1, hp.1.2⟩, hp.2⟩

theorem mono_objSel {o : DOpts} {ci c} {ms ms' : List (FieldInfo × Meth)} (h : MonoF ms ms') (hnf : NoFbod ms)
    (ha : (aliasesM ms).Nodup) : Mono (objSel o ci c ms) (objSel o ci c ms') :=
  monoOn_objSel wf_dom h hnf ha

theorem cfragOpt_cases {ts : List Ty} (h : cfragOpt ts = true) :
    ∃ t, ts = [t, .null] ∧ t.cfrag = true ∧ (t.factoryCls != some JClass.null) = true := by
  unfold cfragOpt at h
  split at h
  · next t => rw [Bool.and_eq_true] at h; exact ⟨t, rfl, h.1, h.2⟩
  · cases h

theorem cfrag_acc (t : Ty) : t.cfrag = true → t.acc = true := by
  apply Ty.induct_cs (P := fun _ t => t.cfrag = true → t.acc = true) (cs := {})
  case list | vtuple => intro _ t ih h; rw [Ty.cfrag] at h; rw [Ty.acc]; exact ih h
  case newtype | ann => intro _ _ t ih h; simp only [Ty.cfrag] at h; simp only [Ty.acc]; exact ih h
  case set | frozenset => intro _ t _ h; rw [Ty.cfrag] at h; cases h
  case tuple =>
    intro _ ts ih h; simp only [Ty.cfrag, cfragL_iff] at h; simp only [Ty.acc, accL_iff]; exact fun t ht => ih t ht (h t ht)
  case mapping =>
    intro _ k v ihk ihv h; simp only [Ty.cfrag, Bool.and_eq_true] at h; simp only [Ty.acc]; rw [ihk h.1, ihv h.2]; rfl
  case union =>
    intro _ ts ih h; simp only [Ty.cfrag] at h
    obtain ⟨t, rfl, hacc, hcls⟩ := cfragOpt_cases h
    simp only [Ty.acc, accOpt]; rw [ih t (List.mem_cons_self ..) hacc, hcls]; rfl
  case obj =>
    intro _ ci fs ih h; rw [Ty.cfrag, Bool.and_eq_true, cfragF_iff] at h
    simp only [Ty.acc]; rw [h.1, accF_iff.2 fun ft hft => ⟨(h.2 ft hft).1, ih ft hft (h.2 ft hft).2⟩]; rfl
  all_goals intros; rfl

theorem isInstance_of_jclass {d : Py} {c : JClass} (h : d.jclass? = some c) : d.isInstance c = true := by
  cases d <;> cases h <;> rfl

/-- Behind `CoercerMethod` only the method inside matters: what `m` accepts conforms to its type, so it is an instance
    of the class of that type (`conforms_class`), which the coercer hands over as it is. -/
theorem mono_coerced {D : Py → Prop} {ap : Bool} {cs : Constraints} {t : Ty} {c : JClass} {env : CoerceEnv} {m m' : Meth}
    (hacc : ∀ d, D d → (run m d).isOk = conforms ap false cs t d) (hc : t.factoryCls = some c) (hf : t.noFloat = true)
    (h : MonoOn D m m') : MonoOn D m (.coerced env c m') := by
  intro d hd hok
  have hi := isInstance_of_jclass (conforms_class ap false cs t d (hacc d hd ▸ hok) c hc hf)
  rw [run_coerced_ok (coerce_instance env c d hi)]; exact h d hd hok

theorem mono_compile (o : DOpts) (ho : OptsOk o) (env : CoerceEnv) :
    ∀ cs t, t.cfrag = true → Mono (compile o cs t) (compileC o env cs t) := by
  have wrap : ∀ {cs t c m'}, t.cfrag = true → t.factoryCls = some c → t.noFloat = true →
      Mono (compile o cs t) m' → Mono (compile o cs t) (.coerced env c m') := fun ht =>
    mono_coerced (accepts_compile o ho _ _ (cfrag_acc _ ht))
  apply Ty.induct_cs
  case null | bool | int | str => intro cs hs; rw [compileC]; exact wrap hs rfl rfl (by rw [compile]; exact Mono.refl _)
  case float =>
    -- an `int` datum is converted by the coercer exactly when `FloatMethod` would have converted it
    intro cs _ d _ hd
    have hrun : ∀ d, run (compile o cs .float) d = runFloat false cs d := fun d => by rw [run_compile_float, ho.quirks]; rfl
    rw [hrun] at hd
    rw [compileC, ← compile, run]
    cases d with
    | float f => rw [coerce_instance env .float _ rfl]; show (run (compile o cs .float) _).isOk = true; rw [hrun]; exact hd
    | int i =>
      rw [runFloat, intAsFloat] at hd
      rw [coerce]
      cases hi : intToFlt i with
      | none => rw [hi] at hd; cases hd
      | some f => rw [hi] at hd; simp only [bindPy]; rw [hrun, runFloat]; exact hd
    | _ => rw [isOk_runFloat] at hd; cases hd
  case any => intro cs _; rw [compile, compileC]; exact Mono.refl _
  case literal =>
    intro cs vs _ d _ hd; simp only [compile, run] at hd; simp only [compileC, run]; rw [runLiteralC_of_ok env _ _ _ hd]; exact hd
  case enum =>
    intro cs c ms _ d _ hd; simp only [compile, run] at hd; simp only [compileC, run]; rw [runLiteralC_of_ok env _ _ _ hd]; exact hd
  case list =>
    intro cs t ih hs; simp only [compileC]
    exact wrap hs rfl rfl (by simp only [compile]; exact mono_listSel wf_dom (ih (by rwa [Ty.cfrag] at hs)))
  case set | frozenset => intro cs t _ hs; rw [Ty.cfrag] at hs; cases hs
  case vtuple =>
    intro cs t ih hs; simp only [compileC]
    exact wrap hs rfl rfl
      (by simp only [compile]; exact mono_vtuple (mono_listSel wf_dom (ih (by rwa [Ty.cfrag] at hs))))
  case tuple =>
    intro cs ts ih hs; simp only [compileC, ho.tupleDropsErrors, compileCL_eq_map]
    refine wrap hs rfl rfl ?_
    simp only [Ty.cfrag, cfragL_iff] at hs
    simp only [compile, ho.tupleDropsErrors, compileL_eq_map]; exact mono_tuple wf_dom fun t ht => ih t ht (hs t ht)
  case mapping =>
    intro cs k v ihk ihv hs; simp only [compileC]
    refine wrap hs rfl rfl ?_
    simp only [Ty.cfrag, Bool.and_eq_true] at hs
    simp only [compile]; exact mono_mappingSel wf_dom (ihk hs.1) (ihv hs.2)
  case union =>
    intro cs ts ih hs; simp only [Ty.cfrag] at hs
    obtain ⟨t, rfl, hacc, hcls⟩ := cfragOpt_cases hs
    simp only [compile, compileC, compileL, compileCL, unionSel_optional hcls, unionSelC_optional hcls]
    intro d hw hd
    rw [isOk_optional, Bool.or_eq_true] at hd
    exact isOk_optionalC_of env _ d (hd.imp id (ih t (List.mem_cons_self ..) hacc d hw))
  case newtype => intro cs n t ih hs; simp only [Ty.cfrag] at hs; simp only [compile, compileC]; exact ih hs
  case ann => intro cs c t ih hs; simp only [Ty.cfrag] at hs; simp only [compile, compileC]; exact ih hs
  case obj =>
    intro cs ci fs ih hs; simp only [compileC, compileCF_eq_map' ho.fbod]
    refine wrap hs rfl rfl ?_
    rw [Ty.cfrag, Bool.and_eq_true, cfragF_iff] at hs
    simp only [compile, compileF_eq_map' ho.fbod]
    have hnf : NoFbod (fs.map fun ft => (ft.1, compile o {} ft.2)) := List.forall_mem_map.2 fun ft hft => (hs.2 ft hft).1
    exact mono_objSel (All2.map (g := fun ft : FieldInfo × Ty => (ft.1, compileC o env {} ft.2))
      fun ft hft => ⟨rfl, ih ft hft (hs.2 ft hft).2⟩) hnf (aliasesM_map _ fs ▸ nodup_of_distinctStrs hs.1)

/-- **C14 (monotonicity) over `Ty.cfrag`**, the scope of `accepts_iff_conforms` (a union is only `Optional[T]`; for unions
    of any shape see `C14_monotoneU`). Every datum with distinct keys accepted by the strict method is accepted
    by the method built with the default coercer — for every word table, every `int(str)` /
    `float(str)` / `repr` oracle, every class order of literal types, every inherited constraint set,
    `no_copy`, `additional_properties`. -/
theorem C14_monotone_partial (o : DOpts) (ho : OptsOk o) (env : CoerceEnv) :
    (∀ cs t, t.cfrag = true → Mono (compile o cs t) (compileC o env cs t)) ∧
    (∀ (fs : List (FieldInfo × Ty)), cfragF fs = true → MonoF (compileF o fs) (compileCF o env fs)) ∧
    (∀ cs ts, cfragL ts = true → MonoL (compileL o cs ts) (compileCL o env cs ts)) := by
  refine ⟨mono_compile o ho env, fun fs hs => ?_, fun cs ts hs => ?_⟩
  · rw [compileF_eq_map, compileCF_eq_map]
    exact All2.map fun ft hft => ⟨rfl, mono_compile o ho env {} ft.2 (cfragF_iff.1 hs ft hft).2⟩
  · rw [compileL_eq_map, compileCL_eq_map]
    exact All2.map fun t ht => mono_compile o ho env cs t (cfragL_iff.1 hs t ht)

/-- the witness of row 39 (`Union[int, List[str]]`, `[]`: `int([])` raised `TypeError` under coercion on the
    pinned tree) after the repair of the coercer: accepted in both modes -/
theorem C14_union_witness_repaired :
    (deserialize {} {} (.union [.int, .list .str]) (.list [])).isOk = true
    ∧ (deserializeC {} {} {} (.union [.int, .list .str]) (.list [])).isOk = true := by decide +kernel

end Api
