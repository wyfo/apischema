import Apimodel.Generated.UnionSel
import Apimodel.UnionSelThm
/-! Source tie of the choice of union method.  The theorems of C13 / C01 about unions (`union_accepts_at`, `acceptsU`,
`C13_byType_eq_sequential`, …) are stated on `unionSel`; here `unionSel` (strict mode) and `unionSelC` (a coercer is set) are shown to be
the chain read from `DeserializationMethodVisitor.union` (`UnionSrc`). -/
namespace Api

theorem unionSel_matches_source (clss : List (Option JClass)) (hasNone : Bool) (ms : List Meth) :
    interpUnion Generated.unionChain { coercer := Option.none, clss := clss, hasNone := hasNone, ms := ms }
      = unionSel clss hasNone ms := by
  unfold unionSel
  simp only [interpUnion, Generated.unionChain, UGuard.holds, UAction.exec, UCond.holds, List.all_cons, List.all_nil,
    Option.isSome_none, Bool.false_and, Bool.not_false, Bool.and_true]
  split
  · cases (clss.zip ms).find? (fun p => p.1 != some JClass.null) <;> rfl
  · split <;> rfl

/-- with a coercer: alternatives that have a class are `CoercerMethod`s, so the by-type table is never built -/
theorem unionSelC_matches_source (env : CoerceEnv) (clss : List (Option JClass)) (hasNone : Bool) (ms : List Meth)
    (hlen : clss.length = ms.length) (hne : ms ≠ []) :
    interpUnion Generated.unionChain { coercer := some env, clss := clss, hasNone := hasNone, ms := ms }
      = unionSelC env clss hasNone ms := by
  unfold unionSelC
  simp only [interpUnion, Generated.unionChain, UGuard.holds, UAction.exec, UCond.holds, List.all_cons, List.all_nil,
    Option.isSome_some, Bool.true_and, Bool.and_true]
  split
  · cases (clss.zip ms).find? (fun p => p.1 != some JClass.null) <;> rfl
  · -- the by-type guard fails: either some alternative has a class (a CoercerMethod), or none has and the table is empty
    have : ((dedupCls (clss.filterMap id)).length == ms.length && !(clss.filterMap id).contains JClass.float
              && !clss.any Option.isSome) = false := by
      cases hany : clss.any Option.isSome with
      | true => simp
      | false =>
        have hall : clss.filterMap id = [] := by
          apply List.filterMap_eq_nil_iff.2
          intro a ha
          have := (List.any_eq_false.1 hany) a ha
          cases a with
          | none => rfl
          | some c => simp at this
        simp only [hall, Bool.not_false, Bool.and_true]
        cases ms with
        | nil => exact absurd rfl hne
        | cons m ms => rfl
    rw [Bool.and_assoc] at this
    rw [this]; simp

end Api
