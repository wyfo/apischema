import Apimodel.GenericsThm
/-! Specialisation in two steps (`B[List[T]]`, then `T := int`) is specialisation in one step (`B[List[int]]`): substitution commutes with
the resolution of a well-formed hierarchy.  This is what makes an alias of a partially specialised generic class (`IntB = B[int, T]`, then `IntB[str]`)
mean the same fields as the direct spelling. -/
namespace Api.Generics

def mapS (τ : Subst) (σ : Subst) : Subst := σ.map (fun p => (p.1, subst τ p.2))

theorem find_mapS (τ σ : Subst) (v : String) :
    (mapS τ σ).find? (fun p => p.1 == v) = (σ.find? (fun p => p.1 == v)).map (fun p => (p.1, subst τ p.2)) :=
  List.find?_map

theorem subst_comp (τ σ : Subst) :
    (∀ t, within (σ.map (·.1)) t = true → subst τ (subst σ t) = subst (mapS τ σ) t) ∧
    (∀ ts, withinL (σ.map (·.1)) ts = true → substL τ (substL σ ts) = substL (mapS τ σ) ts) := by
  apply subst.mutual_induct (motive_1 := fun t => within (σ.map (·.1)) t = true → subst τ (subst σ t) = subst (mapS τ σ) t)
    (motive_2 := fun ts => withinL (σ.map (·.1)) ts = true → substL τ (substL σ ts) = substL (mapS τ σ) ts)
  · intro v h
    obtain ⟨p, hp⟩ := find_key (by rw [within] at h; exact h)
    rw [subst, subst, lookupS, lookupS, find_mapS, hp]; rfl
  · intro c _; rw [subst, subst, subst]
  · intro f as ih h; rw [within] at h; rw [subst, subst, subst, ih h]
  · intro _; rw [substL, substL, substL]
  · intro t ts ih1 ih2 h
    rw [withinL, Bool.and_eq_true] at h
    rw [substL, substL, substL, ih1 h.1, ih2 h.2]

theorem zip_substL (τ : Subst) (ps : List String) (args : List GTy) : ps.zip (substL τ args) = mapS τ (ps.zip args) := by
  rw [substL_eq_map, List.zip_map_right]; rfl

theorem substFields_comp (τ σ : Subst) (fs : List (String × GTy)) (h : ∀ p ∈ fs, within (σ.map (·.1)) p.2 = true) :
    substFields τ (substFields σ fs) = substFields (mapS τ σ) fs := by
  rw [substFields, substFields, List.map_map]
  exact List.map_congr_left (fun p hp => congrArg (Prod.mk p.1) ((subst_comp τ σ).1 p.2 (h p hp)))

theorem resolve_two_step (τ : Subst) : ∀ (cs : List GClass) (args : List GTy), chainWf cs = true →
    (∀ c, cs.head? = some c → c.params.length = args.length) →
    resolveChain cs (substL τ args) = substFields τ (resolveChain cs args)
  | [], _, _, _ => rfl
  | c :: rest, args, hwf, hl => by
    obtain ⟨hw, hrest, hbl⟩ := chainWf_cons hwf
    obtain ⟨hb, hf⟩ := wf_covered hw (hl c rfl)
    rw [resolveChain, resolveChain, zip_substL, ← (subst_comp τ _).2 _ hb, ← substFields_comp τ _ _ hf,
      resolve_two_step τ rest _ hrest (fun d hd => by rw [substL_length]; exact (hbl d hd).symm)]
    exact (List.map_append ..).symm

/-- `IntB = B[int, T]`, then `IntB[str]`: the fields of `B[int, str]` -/
example : renderFields (substFields [("T", .con "str")] (resolveChain [clsB, clsA] [.con "int", .var "T"]))
    = renderFields (resolveChain [clsB, clsA] [.con "int", .con "str"]) := by decide +kernel

end Api.Generics
