import Apimodel.Err
/-!
# C10: `validate()` — which validators run, in which order, and how their errors merge

A validator is data here: its dependency names, its `discard` names (after the rule "a field validator
without `discard=` discards its own field"), the alias it relocates its error under, and — the object
being fixed — whether it fails and with which error.  Bodies of validators are parameters.
-/
namespace Api.Validators

structure Vd where
  id : Nat
  deps : List String
  /-- empty = falsy = no discard -/
  discard : List String := []
  /-- `validator.field` alias: the error is wrapped as `{alias: err}` -/
  field : Option Key := none
  fails : Bool
  err : Err
  deriving Inhabited

def disjoint (a b : List String) : Bool := a.all (fun x => !b.contains x)

def Vd.raised (v : Vd) : Err :=
  match v.field with
  | some k => .mk [] [(k, v.err)]
  | none => v.err

def joinOpt (a : Option Err) (b : Option Err) : Option Err :=
  match b with
  | none => a
  | some e => some (mergeOpt a e)

structure Res where
  ran : List Nat
  err : Option Err
  deriving Inhabited

def Res.cons (i : Nat) (r : Res) : Res := { r with ran := i :: r.ran }

/-- `validate(obj, validators)` with the remainder taken *after* the failing validator (`validators[i+1:]`).
    `disc` accumulates the discarded names of the enclosing calls (the nested generator filters compose). -/
def validate (disc : List String) : List Vd → Option Err → Res
  | [], acc => ⟨[], acc⟩
  | v :: rest, acc =>
    if !disjoint v.deps disc then validate disc rest acc
    else if !v.fails then (validate disc rest acc).cons v.id
    else
      let acc' := some (mergeOpt acc v.raised)
      if v.discard.isEmpty then (validate disc rest acc').cons v.id
      else
        let inner := validate (disc ++ v.discard) rest none
        ⟨v.id :: inner.ran, joinOpt acc' inner.err⟩

/-- before the repair of row 14 the remainder was `validators[i:]`: a failing, discarding validator that does not
    depend on what it discards survived the filter and was run again, forever (`RecursionError`) -/
def loops (disc : List String) : List Vd → Bool
  | [] => false
  | v :: rest =>
    if !disjoint v.deps disc then loops disc rest
    else if !v.fails then loops disc rest
    else if v.discard.isEmpty then loops disc rest
    else disjoint v.deps v.discard || loops (disc ++ v.discard) rest

/-! ## specification: one left-to-right pass -/

structure Pass where
  disc : List String
  ran : List Nat
  errs : List Err

/-- a validator runs iff none of its dependencies has been discarded by an earlier failing validator -/
def passStep (p : Pass) (v : Vd) : Pass :=
  if !disjoint v.deps p.disc then p
  else if !v.fails then { p with ran := p.ran ++ [v.id] }
  else { disc := p.disc ++ v.discard, ran := p.ran ++ [v.id], errs := p.errs ++ [v.raised] }

def pass (disc : List String) (vs : List Vd) : Pass := vs.foldl passStep ⟨disc, [], []⟩

theorem foldl_passStep (vs : List Vd) : ∀ (p : Pass),
    vs.foldl passStep p
      = ⟨(pass p.disc vs).disc, p.ran ++ (pass p.disc vs).ran, p.errs ++ (pass p.disc vs).errs⟩ := by
  induction vs with
  | nil => intro p; simp [pass]
  | cons v vs ih =>
    intro p
    have hp : pass p.disc (v :: vs) = vs.foldl passStep (passStep ⟨p.disc, [], []⟩ v) := rfl
    rw [List.foldl, ih (passStep p v), hp, ih (passStep ⟨p.disc, [], []⟩ v)]
    -- a step from `p` and the same step from `⟨p.disc, [], []⟩` test the same and append the same
    unfold passStep
    cases disjoint v.deps p.disc
    · rfl
    cases v.fails <;> simp [List.append_assoc]

theorem pass_cons (disc : List String) (v : Vd) (vs : List Vd) :
    pass disc (v :: vs) =
      if !disjoint v.deps disc then pass disc vs
      else if !v.fails then ⟨(pass disc vs).disc, v.id :: (pass disc vs).ran, (pass disc vs).errs⟩
      else ⟨(pass (disc ++ v.discard) vs).disc, v.id :: (pass (disc ++ v.discard) vs).ran,
            v.raised :: (pass (disc ++ v.discard) vs).errs⟩ := by
  show vs.foldl passStep (passStep ⟨disc, [], []⟩ v) = _
  rw [foldl_passStep, passStep]
  cases disjoint v.deps disc
  · rfl
  cases v.fails <;> rfl

/-- **C10 (who runs).** The validators executed, in order, are exactly those selected by the one-pass
    specification — for every list of validators, every outcome assignment, every discard structure. -/
theorem C10_ran : ∀ (vs : List Vd) (disc : List String) (acc : Option Err),
    (validate disc vs acc).ran = (pass disc vs).ran
  | [], _, _ => rfl
  | v :: vs, disc, acc => by
    rw [validate, pass_cons]
    -- the tests of `validate` in its order (`false` comes first): `v` is skipped; it passes; it fails, with `discard` names or without
    cases disjoint v.deps disc
    · exact C10_ran vs disc acc
    cases v.fails
    · exact congrArg (v.id :: ·) (C10_ran vs disc acc)
    cases h : v.discard.isEmpty
    · exact congrArg (v.id :: ·) (C10_ran vs _ none)
    · rw [List.isEmpty_iff.1 h, List.append_nil]; exact congrArg (v.id :: ·) (C10_ran vs disc _)

def ShouldRun (disc : List String) (before : List Vd) (v : Vd) : Bool :=
  disjoint v.deps (pass disc before).disc

/-! ## no error ⇔ no executed validator failed -/

theorem joinOpt_isSome (a b : Option Err) : (joinOpt a b).isSome = (a.isSome || b.isSome) := by
  cases a <;> cases b <;> rfl

theorem C10_ok_iff : ∀ (vs : List Vd) (disc : List String) (acc : Option Err),
    (validate disc vs acc).err.isSome = (acc.isSome || !(pass disc vs).errs.isEmpty)
  | [], _, _ => (Bool.or_false _).symm
  | v :: vs, disc, acc => by
    rw [validate, pass_cons]
    cases disjoint v.deps disc
    · exact C10_ok_iff vs disc acc
    cases v.fails
    · exact C10_ok_iff vs disc acc
    -- `v` fails: there is an error on both sides
    refine Eq.trans ?_ (Bool.or_true _).symm
    cases v.discard.isEmpty
    · exact joinOpt_isSome _ _
    · exact C10_ok_iff vs disc (some _)

/-- tail of `ObjectMethod.deserialize`: `provided` = names with a value, `invalid` = names whose field failed
    (or `__post_init__`-modified), `structural` = the error collected so far -/
def objValidate (vs : List Vd) (provided invalid : List String) (structural : Option Err) : Res :=
  let kept := vs.filter (fun v => !disjoint v.deps provided)
  match structural with
  | some e => -- validators whose inputs are all valid still run, on a mock object; nothing is constructed
      let r := validate [] (kept.filter (fun v => disjoint v.deps invalid)) none
      ⟨r.ran, joinOpt (some e) r.err⟩
  | none => validate [] kept none

theorem ran_sublist : ∀ (vs : List Vd) (disc : List String), (pass disc vs).ran.Sublist (vs.map (·.id))
  | [], _ => .slnil
  | v :: vs, disc => by
    rw [pass_cons]
    cases disjoint v.deps disc
    · exact (ran_sublist vs disc).cons _
    cases v.fails
    · exact (ran_sublist vs disc).cons_cons _
    · exact (ran_sublist vs _).cons_cons _

/-- **C10 (gate).** A validator of the class that runs during deserialization has at least one dependency provided and,
    when the structure is invalid, no dependency among the invalid fields.  (The validators given as
    `deserialize(..., validators=[…])` have no dependencies; apischema runs them on the constructed object, once the validators of
    the class have passed; the model leaves them out.) -/
theorem C10_gate (vs : List Vd) (provided invalid : List String) (st : Option Err) (i : Nat)
    (h : i ∈ (objValidate vs provided invalid st).ran) :
    ∃ v ∈ vs, v.id = i ∧ disjoint v.deps provided = false ∧
      (st.isSome = true → disjoint v.deps invalid = true) := by
  have sub : ∀ l, i ∈ (validate [] l none).ran → ∃ v ∈ l, v.id = i := fun l h =>
    List.mem_map.1 ((ran_sublist l []).subset (C10_ran l [] none ▸ h))
  -- in either case `objValidate` runs `validate []` on those of `vs` that pass its filters
  cases st with
  | none =>
    obtain ⟨v, hv, hid⟩ := sub _ h
    rw [List.mem_filter] at hv
    exact ⟨v, hv.1, hid, by simpa using hv.2, nofun⟩
  | some e =>
    obtain ⟨v, hv, hid⟩ := sub _ h
    rw [List.mem_filter, List.mem_filter] at hv
    exact ⟨v, hv.1.1, hid, by simpa using hv.1.2, fun _ => hv.2⟩

/-- an object is constructed iff the structure is valid; it is returned iff, in addition, no executed
    validator failed -/
theorem C10_result (vs : List Vd) (provided invalid : List String) (st : Option Err) :
    (objValidate vs provided invalid st).err.isSome
      = (st.isSome || !(pass [] (match st with
            | some _ => (vs.filter (fun v => !disjoint v.deps provided)).filter (fun v => disjoint v.deps invalid)
            | none => vs.filter (fun v => !disjoint v.deps provided))).errs.isEmpty) := by
  cases st with
  | none => exact C10_ok_iff _ [] none
  | some e => exact joinOpt_isSome _ _   -- a structural error is an error: both sides are `true`

/-! ## examples (non-vacuity; the documentation's password example shape) -/

def e (s : String) : Err := .mk [.custom s] []

def exVs : List Vd :=
  [ { id := 0, deps := ["a"], discard := ["a"], field := some (.name "a"), fails := true, err := e "bad a" },
    { id := 1, deps := ["a", "b"], fails := true, err := e "a/b" },
    { id := 2, deps := ["b"], fails := true, err := e "bad b" },
    { id := 3, deps := ["b"], fails := false, err := e "" } ]

example : (validate [] exVs none).ran = [0, 2, 3] := by decide +kernel
example : ShouldRun [] (exVs.take 1) exVs[1]! = false := by decide +kernel

end Api.Validators
