import Apimodel.Constraints
import Apimodel.Err
/-!
# Deserialization: method trees (`apischema/deserialization/methods.py`) and their compilation
(`DeserializationMethodVisitor`), strict and with the default coercer (`coercion.coerce`). An exception other than
`ValidationError` is an outcome of its own (`.crash`), also when it is raised while the method tree is built (`Meth.fail`).
Left out: validators, conversions, discriminators, aggregate (flattened / pattern / additional) fields, recursive types.
-/
namespace Api

inductive Ctor where
  | noCtor        -- TypedDict: returns the dict
  | raw           -- `cls(**fields)`
  | fields        -- `FieldsConstructor` (override_dataclass_constructors)
  deriving DecidableEq, Repr, Inhabited

/-- what CPython's `int(str)`, `float(str)` and `str(float)` return on the strings / floats of a run
    (oracle data supplied with the datum — a string that is absent is a `ValueError`, a float that is absent prints as a
    placeholder), and the boolean word table (the driver receives it with the request; the copy generated from
    `coercion.py`, `Generated.boolWords`, is compared with the documented one in `C14_word_table`) -/
structure CoerceEnv where
  intOf : List (String × Int) := []
  floatOf : List (String × Flt) := []
  reprOf : List (Flt × String) := []
  boolWords : List (String × Bool) := []
  /-- `LiteralMethod.types` (a tuple made from a *set* of classes: the order is the interpreter's; the
      harness reads it off the same construction) -/
  litTypes : List (List Lit × List JClass) := []
  deriving Repr, Inhabited

inductive Meth where
  | none | bool | int | float (acceptBool : Bool) | str
  | cint (c : Constraints) | cfloat (acceptBool : Bool) (c : Constraints) | cstr (c : Constraints)
  | any (c : Constraints)
  | listCheckOnly (c : Constraints) (m : Meth)
  | list (c : Constraints) (m : Meth)
  | set (c : Constraints) (m : Meth)
  | frozenset (m : Meth)
  | vtuple (m : Meth)
  | tuple (dropErrors : Bool) (c : Constraints) (ms : List Meth)
  | literal (vs : List Lit) (enum : Option (String × List String))
  | mappingCheckOnly (c : Constraints) (k v : Meth)
  | mapping (c : Constraints) (k v : Meth)
  | simpleObj (ci : ClassInfo) (ctor : Ctor) (fields : List (FieldInfo × Meth))
  | obj (ci : ClassInfo) (ctor : Ctor) (c : Constraints) (ap : Bool) (fields : List (FieldInfo × Meth))
  | optional (m : Meth)
  /-- `CoercerMethod(coercer, cls, method)` with the default coercer -/
  | coerced (env : CoerceEnv) (cls : JClass) (m : Meth)
  /-- `OptionalMethod(value_method, coercer)` with the default coercer -/
  | optionalC (env : CoerceEnv) (m : Meth)
  /-- `LiteralMethod` with the default coercer -/
  | literalC (env : CoerceEnv) (vs : List Lit) (enum : Option (String × List String))
  | unionByType (tbl : List (JClass × Meth))
  | union (ms : List Meth)
  /-- building the method raised (observed when the method is first used) -/
  | fail (exn : String)
  deriving Repr, Inhabited

/-! ## helpers, one per Python helper -/

/-- `bad_type(data, *expected)`; since the repair of row 6 the class of a datum that is not an instance of
    the seven JSON classes is named in the message (`found = none` here) instead of raising `TypeError` -/
def badType (exps : List JClass) (d : Py) : Outcome Val :=
  .invalid (.ofMsgs (exps.map (fun e => .badType e d.jclass?)))

structure Acc where
  vals : List Val := []
  errs : List (Key × Err) := []
  crash : Option String := Option.none
  deriving Inhabited

/-- one iteration, applied to the state `rest` of the iterations after it (`collect`, `collectSet`, `runTuple` are right
    folds): a crash discards `rest`, which is how the leftmost non-`ValidationError` exception is the one that escapes -/
def stepAcc (k : Key) (r : Outcome Val) (rest : Acc) : Acc :=
  match r with
  | .crash c => { crash := some c }
  | .ok v => { rest with vals := v :: rest.vals }
  | .invalid e => { rest with vals := Val.null :: rest.vals, errs := setChild k e rest.errs }

/-- `SetMethod` loop: `values.add(v)` raises `TypeError` at the first unhashable value -/
def stepSet (k : Key) (r : Outcome Val) (rest : Acc) : Acc :=
  match r with
  | .ok v => if v.hashable then stepAcc k r rest else { crash := some "TypeError" }
  | r => stepAcc k r rest

def collectSet (f : Py → Outcome Val) : Nat → List Py → Acc
  | _, [] => {}
  | i, x :: xs => stepSet (.idx i) (f x) (collectSet f (i+1) xs)

def collect (f : Py → Outcome Val) : Nat → List Py → Acc
  | _, [] => {}
  | i, x :: xs => stepAcc (.idx i) (f x) (collect f (i+1) xs)

/-- `validate_constraints(data, constraints, children)` then `return value`; `own = none`: `uniqueItems` could not be
    computed (`Constraints.listErrors`: a `TypeError`) -/
def finish (own : Option (List Rule)) (acc : Acc) (mk : List Val → Outcome Val) : Outcome Val :=
  match acc.crash with
  | some c => .crash c
  | Option.none =>
    match own with
    | Option.none => .crash "TypeError"
    | some [] => if acc.errs.isEmpty then mk acc.vals else .invalid (.mk [] acc.errs)
    | some rs => .invalid (.mk rs acc.errs)

def onList (d : Py) (k : List Py → Outcome Val) : Outcome Val :=
  match d with | .list xs => k xs | _ => badType [.list] d

def constrained (rs : List Rule) (v : Val) : Outcome Val :=
  match rs with | [] => .ok v | rs => .invalid (.ofMsgs rs)

def runNone (d : Py) : Outcome Val := match d with | .null => .ok .null | _ => badType [.null] d
def runBool (d : Py) : Outcome Val := match d with | .bool b => .ok (.bool b) | _ => badType [.bool] d
def runInt (c : Constraints) (d : Py) : Outcome Val :=
  match d with
  | .int i => constrained (c.numErrors (.int i)) (.int i)
  | _ => badType [.int] d
/-- `float(i)` followed by the constraints -/
def intAsFloat (c : Constraints) (i : Int) : Outcome Val :=
  match intToFlt i with
  | some f => constrained (c.numErrors (.flt f)) (.float f)
  | Option.none => .crash "OverflowError"

/-- `FloatMethod`. `acceptBool` (`Quirks.floatAcceptsBool`) is the method before the repair of row 2, when
    `isinstance(data, int)` let a `bool` through; the theorems set it to `false` (`OptsOk`) -/
def runFloat (acceptBool : Bool) (c : Constraints) (d : Py) : Outcome Val :=
  match d with
  | .float f => constrained (c.numErrors (.flt f)) (.float f)
  | .int i => intAsFloat c i
  | .bool b =>
      if acceptBool then
        let f : Flt := .fin (if b then 1 else 0); constrained (c.numErrors (.flt f)) (.float f)
      else badType [.float] d
  | _ => badType [.float] d
def runStr (c : Constraints) (d : Py) : Outcome Val :=
  match d with
  | .str s => constrained (c.strErrors s) (.str s)
  | _ => badType [.str] d

/-- `AnyMethod`: constraints selected by the exact class of the datum -/
def runAny (c : Constraints) (d : Py) : Outcome Val :=
  match d with
  | .int i => constrained (c.numErrors (.int i)) (asVal d)
  | .float f => constrained (c.numErrors (.flt f)) (asVal d)
  | .str s => constrained (c.strErrors s) (asVal d)
  | .list xs => match c.listErrors xs with
      | some rs => constrained rs (asVal d)
      | Option.none => .crash "TypeError"
  | .dict kvs => constrained (c.dictErrors kvs.length) (asVal d)
  | .dictNS kvs => constrained (c.dictErrors kvs.length) (asVal d)
  | _ => .ok (asVal d)

/-- `SetMethod` result: `values.add(v)`; unhashable element → `TypeError` -/
def mkSet (vs : List Val) : Outcome Val :=
  if vs.all Val.hashable then .ok (.set (vs.foldl (fun s v => setAdd v s) []))
  else .crash "TypeError"

def mapVal (r : Outcome Val) (f : Val → Outcome Val) : Outcome Val :=
  match r with | .ok v => f v | r => r

def listToTuple (v : Val) : Outcome Val :=
  match v with | .list xs => .ok (.tuple xs) | v => .ok v
def listToFrozenset (v : Val) : Outcome Val :=
  match v with
  | .list xs => if xs.all Val.hashable then .ok (.frozenset (xs.foldl (fun s v => setAdd v s) []))
                else .crash "TypeError"
  | v => .ok v

/-- `LiteralMethod`: `value_map[data]` -/
def runLiteral (vs : List Lit) (en : Option (String × List String)) (d : Py) : Outcome Val :=
  if !d.hashable then badType (dedupClasses ((dedupLits vs).map Lit.jclass)) d
  else
    match lastMatch vs 0 Option.none with
    | some (i, l) =>
        match en with
        | some (cls, names) => .ok (.enumMember cls (names.getD i ""))
        | Option.none => .ok l.toVal
    | Option.none =>
        match d with
        | .other _ => .invalid (.leaf (.oneOf (dedupLits vs)))
        | _ => .invalid (.leaf (.oneOf (dedupLits vs)))
where
  /-- `dict(zip(keys, values))`: of several equal keys the last value wins -/
  lastMatch : List Lit → Nat → Option (Nat × Lit) → Option (Nat × Lit)
    | [], _, acc => acc
    | l :: ls, i, acc => lastMatch ls (i+1) (if litMatches d l then some (i, l) else acc)
  /-- keys of `value_map` (`dict(zip(...))` keeps the first of equal keys, the last value) -/
  dedupLits (ls : List Lit) : List Lit :=
    ls.foldl (fun acc l => if acc.any (fun a => litEq a l) then acc else acc ++ [l]) []
  litEq (a b : Lit) : Bool :=
    match a, b with
    | .null, .null => true
    | .str x, .str y => x == y
    | a, b => match a.asNum?, b.asNum? with
      | some x, some y => x.eq y
      | _, _ => false
  dedupClasses (cs : List JClass) : List JClass :=
    cs.foldl (fun acc c => if acc.contains c then acc else acc ++ [c]) []

def Py.isNull : Py → Bool | .null => true | _ => false

def lookupKey (kvs : List (String × Py)) (k : String) : Option Py :=
  (kvs.find? (fun kv => kv.1 == k)).map (·.2)

/-- one item of a mapping loop (both `MappingCheckOnly` and `MappingMethod`, since the repair of row 30): the key is
    deserialized, then the value, and their errors are merged under the item's key; `keyFirst` is not used -/
def stepItem (_keyFirst : Bool) (k : String) (rk rv : Outcome Val) (rest : Acc) : Acc :=
  match rk, rv with
  | .crash c, _ => { crash := some c }
  | _, .crash c => { crash := some c }
  | .invalid ek, .invalid ev => { rest with errs := setChild (.name k) (ek.merge ev) rest.errs }
  | .invalid e, .ok _ => { rest with errs := setChild (.name k) e rest.errs }
  | .ok _, .invalid e => { rest with errs := setChild (.name k) e rest.errs }
  | .ok _, .ok _ => rest

def collectItems (keyFirst : Bool) (fk fv : Py → Outcome Val) : List (String × Py) → Acc
  | [] => {}
  | (k, v) :: kvs => stepItem keyFirst k (fk (.str k)) (fv v) (collectItems keyFirst fk fv kvs)

/-- the resulting dict of `MappingMethod` (all items valid) -/
def mkItems (fk fv : Py → Outcome Val) (kvs : List (String × Py)) : List (Val × Val) :=
  kvs.filterMap (fun kv => match fk (.str kv.1), fv kv.2 with
    | .ok k, .ok v => some (k, v)
    | _, _ => Option.none)

def finishMap (own : List Rule) (acc : Acc) (v : Val) : Outcome Val :=
  match acc.crash with
  | some c => .crash c
  | Option.none =>
    match own with
    | [] => if acc.errs.isEmpty then .ok v else .invalid (.mk [] acc.errs)
    | rs => .invalid (.mk rs acc.errs)

/-- the mapping and object methods are not modelled on a dict with a key that is not a string (`.dictNS`): this crash
    is a marker of the model, not an exception apischema raises, and the reason why `Py.jsonX` excludes `dictNS` -/
def onDict (d : Py) (k : List (String × Py) → Outcome Val) : Outcome Val :=
  match d with
  | .dict kvs => k kvs
  | .dictNS _ => .crash "ModelScope:dictNS"
  | _ => badType [.dict] d

structure FAcc where
  vals : List (String × Val) := []
  errs : List (Key × Err) := []
  count : Nat := 0
  crash : Option String := Option.none
  deriving Inhabited

/-- one iteration of the field loop (`ObjectMethod` and `SimpleObjectMethod` alike) -/
def stepField (f : FieldInfo) (fbod : Bool) (r : Option (Outcome Val)) (rest : FAcc) : FAcc :=
  match r with
  | some (.crash c) => { crash := some c }
  | some (.ok v) => { rest with vals := (f.name, v) :: rest.vals, count := rest.count + 1 }
  | some (.invalid e) =>
      if f.required || !fbod then { rest with errs := setChild (.name f.alias) e rest.errs, count := rest.count + 1 }
      else { rest with count := rest.count + 1 }
  | Option.none =>
      if f.required then { rest with errs := setChild (.name f.alias) (.leaf .missing) rest.errs }
      else rest

/-- unexpected keys: `data.keys() - all_aliases` -/
def unexpectedKeys (aliases : List String) (kvs : List (String × Py)) : List String :=
  (kvs.filter (fun kv => !aliases.contains kv.1)).map (·.1)

def addUnexpected (ks : List String) (errs : List (Key × Err)) : List (Key × Err) :=
  ks.foldl (fun a k => setChild (.name k) (.leaf .unexpected) a) errs

/-- what the constructor receives / what a TypedDict result contains -/
def rawVals (kvs : List (String × Py)) : List (String × Val) := kvs.map (fun kv => (kv.1, asVal kv.2))

def Dflt.toVal : Dflt → Val
  | .lit .null => .null | .lit (.bool b) => .bool b | .lit (.int i) => .int i
  | .lit (.float f) => .float f | .lit (.str s) => .str s
  | .emptyList => .list [] | .emptyDict => .dict []

/-- the argument (or default) the constructor ends up with for one field -/
def pickField (fields : List (String × Val)) (f : FieldInfo) : Option (String × Val) :=
  match fields.find? (fun kv => kv.1 == f.name) with
  | some kv => some kv
  | Option.none => f.dflt.map (fun d => (f.name, d.toVal))

/-- `cls(**fields)` (absent fields take their default) / the dict itself for a TypedDict -/
def construct (ci : ClassInfo) (infos : List FieldInfo) (fields : List (String × Val)) : Val :=
  match ci.kind with
  | .typedDict => .dict (fields.map (fun kv => (.str kv.1, kv.2)))
  | .namedTuple => .ntuple ci.name (infos.filterMap (pickField fields))
  | .dataclass => .obj ci.name (infos.filterMap (pickField fields))

/-- tail of `SimpleObjectMethod.deserialize` -/
def finishSimple (ci : ClassInfo) (infos : List FieldInfo) (aliases : List String) (acc : FAcc) (kvs : List (String × Py)) : Outcome Val :=
  match acc.crash with
  | some c => .crash c
  | Option.none =>
    let errs := if kvs.length != acc.count && ci.kind != .typedDict
                then addUnexpected (unexpectedKeys aliases kvs) acc.errs else acc.errs
    if errs.isEmpty then .ok (construct ci infos (rawVals kvs)) else .invalid (.mk [] errs)

/-- `sorted(field.required_by & data.keys())` -/
def requiringPresent (f : FieldInfo) (kvs : List (String × Py)) : List String :=
  ((f.requiredBy.filter (fun a => (lookupKey kvs a).isSome)).eraseDups).mergeSort (fun a b => decide (a ≤ b))

/-- is this field absent although a field that requires it (`dependent_required`) is present -/
def depViolated (f : FieldInfo) (kvs : List (String × Py)) : Bool :=
  (lookupKey kvs f.alias).isNone && !f.required && !(requiringPresent f kvs).isEmpty

/-- the `missing property (required by [...])` errors of the field loop: one child per violated field -/
def depMissing : List FieldInfo → List (String × Py) → List (String × List String)
  | [], _ => []
  | f :: fs, kvs => if depViolated f kvs then (f.alias, requiringPresent f kvs) :: depMissing fs kvs else depMissing fs kvs

def addDepMissing (ms : List (String × List String)) (errs : List (Key × Err)) : List (Key × Err) :=
  ms.foldl (fun a m => setChild (.name m.1) (.leaf (.missingRequiredBy m.2)) a) errs

theorem requiringPresent_nil {f : FieldInfo} (h : f.requiredBy = []) (kvs : List (String × Py)) :
    requiringPresent f kvs = [] := by
  unfold requiringPresent; rw [h]; simp

theorem depViolated_false {f : FieldInfo} (h : f.requiredBy = []) (kvs : List (String × Py)) :
    depViolated f kvs = false := by
  unfold depViolated; rw [requiringPresent_nil h]; simp

theorem depMissing_eq (kvs : List (String × Py)) : ∀ infos,
    depMissing infos kvs = (infos.filter (depViolated · kvs)).map fun f => (f.alias, requiringPresent f kvs)
  | [] => rfl
  | f :: fs => by rw [depMissing, List.filter_cons, depMissing_eq kvs fs]; split <;> rfl

theorem depMissing_nil : ∀ {infos : List FieldInfo}, (∀ f ∈ infos, f.requiredBy = []) →
    ∀ kvs, depMissing infos kvs = []
  | _, h, kvs => by
    rw [depMissing_eq, List.filter_eq_nil_iff.2 fun f hf => by rw [depViolated_false (h f hf)]; exact Bool.false_ne_true]; rfl

/-- the additional keys of a TypedDict under `additional_properties`: the keys of the datum that are no alias of the class,
    copied as they are, except those spelled like a declared field's own name (an additional key never takes the place of
    a declared field: row 76) -/
def extraVals (names aliases : List String) (kvs : List (String × Py)) : List (String × Val) :=
  (unexpectedKeys aliases kvs).filterMap (fun k => if names.contains k then Option.none else (lookupKey kvs k).map (fun v => (k, asVal v)))

/-- tail of `ObjectMethod.deserialize` (no aggregate fields, no validators) -/
def finishObj (ci : ClassInfo) (infos : List FieldInfo) (own : List Rule) (ap : Bool) (aliases : List String) (acc : FAcc)
    (kvs : List (String × Py)) : Outcome Val :=
  match acc.crash with
  | some c => .crash c
  | Option.none =>
    let extra := unexpectedKeys aliases kvs
    let errs := addDepMissing (depMissing infos kvs)
                  (if kvs.length != acc.count && !ap then addUnexpected extra acc.errs else acc.errs)
    let vals := if kvs.length != acc.count && ap && ci.kind == .typedDict
                then acc.vals ++ extraVals (infos.map (·.name)) aliases kvs
                else acc.vals
    if errs.isEmpty && own.isEmpty then .ok (construct ci infos vals) else .invalid (.mk own errs)

/-- `OptionalMethod` failure: `merge_errors(err, bad_type(data, NoneType))` -/
def optionalTail (d : Py) (r : Outcome Val) : Outcome Val :=
  match r with
  | .invalid e =>
      match badType [.null] d with
      | .invalid b => .invalid (e.merge b)
      | other => other
  | r => r

/-- fold step of `UnionMethod` -/
def unionStep (r : Outcome Val) (rest : Option Err → Outcome Val) (err : Option Err) : Outcome Val :=
  match r with
  | .invalid e => rest (some (mergeOpt err e))
  | r => r

def unionEnd (err : Option Err) : Outcome Val :=
  match err with | some e => .invalid e | Option.none => .crash "AssertionError"

/-- `UnionByTypeMethod` failure of the selected method -/
def byTypeTail (others : List JClass) (d : Py) (r : Outcome Val) : Outcome Val :=
  match r with
  | .invalid e =>
      match badType others d with
      | .invalid b => .invalid (e.merge b)
      | other => other
  | r => r

/-- body of `TupleMethod.deserialize` after the `isinstance` test. `dropErrors` (`Quirks.tupleDropsErrors`) is the
    method before the repair of row 1, when the result of `set_child_error(elt_errors, i, err)` was dropped, so that
    element errors never reached `validate_constraints` and failed positions stayed `None`; the theorems set it to
    `false` (`OptsOk`) -/
def tupleBody (dropErrors : Bool) (c : Constraints) (n : Nat) (xs : List Py) (acc : Acc) : Outcome Val :=
  if xs.length < n then .invalid (.leaf (.minItems n))
  else if xs.length > n then .invalid (.leaf (.maxItems n))
  else finish (c.listErrors xs) (if dropErrors then { acc with errs := [] } else acc) (fun vs => .ok (.tuple vs))

def failAs {α β} (r : Outcome α) (dflt : Outcome β) : Outcome β :=
  match r with | .invalid e => .invalid e | .crash x => .crash x | .ok _ => dflt

def badTypeP (c : JClass) (d : Py) : Outcome Py := failAs (badType [c] d) (.crash "unreachable")

def assoc? {α β} [BEq α] (k : α) : List (α × β) → Option β
  | [] => Option.none
  | (a, b) :: rest => if a == k then some b else assoc? k rest

/-- `isinstance(data, cls)` for the seven JSON classes (`bool` is an `int`) -/
def Py.isInstance (d : Py) (c : JClass) : Bool :=
  match c, d with
  | .null, .null => true
  | .bool, .bool _ => true
  | .int, .int _ => true | .int, .bool _ => true
  | .float, .float _ => true
  | .str, .str _ => true
  | .list, .list _ => true
  | .dict, .dict _ => true | .dict, .dictNS _ => true
  | _, _ => false

/-- `int(float)`: truncation; `nan` → `ValueError`, infinities → `OverflowError`; the coercer turns both
    into `bad_type` (since the repair of rows 4 / 39) -/
def truncFlt (f : Flt) : Outcome Py :=
  match f with
  | .fin q => .ok (.int (Int.tdiv q.num q.den))
  | _ => .invalid (.ofMsgs [.badType .int (some .float)])

/-- `str(f)` / `repr(f)` of a float: total in Python; the oracle table of the environment lists the floats of the datum
    (filled by the harness from the real `repr`), any other float is given a fixed placeholder -/
def reprFlt (env : CoerceEnv) (f : Flt) : String := (assoc? f env.reprOf).getD "<float>"

/-- the default coercer (`coercion.coerce`) after the repair of rows 4 / 39: every failed conversion is a
    `bad_type` (`ValueError`, `TypeError`, `OverflowError`, `KeyError` of the word table are all caught; the
    `''`-test is guarded by `isinstance(data, str)`) -/
def coerce (env : CoerceEnv) (c : JClass) (d : Py) : Outcome Py :=
  match c with
  | .null =>
      match d with
      | .null => .ok .null
      | .str s => if s == "" then .ok .null else badTypeP .null d
      | _ => badTypeP .null d
  | .bool =>
      match d with
      | .bool _ => .ok d
      | .str s => match assoc? s.toLower env.boolWords with
          | some b => .ok (.bool b)
          | Option.none => badTypeP .bool d
      | .int i => .ok (.bool (i != 0))
      | _ => badTypeP .bool d
  | .int =>
      match d with
      | .int _ | .bool _ => .ok d
      | .float f => truncFlt f
      | .str s => match assoc? s env.intOf with
          | some i => .ok (.int i)
          | Option.none => badTypeP .int d
      | _ => badTypeP .int d
  | .float =>
      match d with
      | .float _ => .ok d
      | .int i => match intToFlt i with
          | some f => .ok (.float f)
          | Option.none => badTypeP .float d
      | .str s => match assoc? s env.floatOf with
          | some f => .ok (.float f)
          | Option.none => badTypeP .float d
      | _ => badTypeP .float d
  | .str =>
      match d with
      | .str _ => .ok d
      | .int i => .ok (.str (toString i))
      | .float f => .ok (.str (reprFlt env f))
      | _ => badTypeP .str d
  | c => if d.isInstance c then .ok d else badTypeP c d

/-- `LiteralMethod` with a coercer (after the repair of row 5): on a miss, the datum is coerced to each class
    of `types` in turn (a tuple made from a *set* of classes: the order is the interpreter's, the harness
    reads it off the same construction); a coerced value that is a literal is returned, a coerced value that
    is not (`KeyError`) moves on to the next class, and so does a class the datum cannot be coerced to (repair of row 80: the coercer's
    `ValidationError` used to escape, so the outcome depended on the order of the set) -/
def tryLitClasses (env : CoerceEnv) (vs : List Lit) (en : Option (String × List String)) (d : Py) :
    List JClass → Outcome Val
  | [] => runLiteral vs en d
  | c :: cs =>
      match coerce env c d with
      | .ok d' =>
          (match runLiteral.lastMatch d' vs 0 Option.none with
           | some _ => runLiteral vs en d'
           | Option.none => tryLitClasses env vs en d cs)
      | .invalid _ => tryLitClasses env vs en d cs
      | .crash x => .crash x

def runLiteralC (env : CoerceEnv) (vs : List Lit) (en : Option (String × List String)) (d : Py) : Outcome Val :=
  if !d.hashable then runLiteral vs en d
  else
    match runLiteral.lastMatch d vs 0 Option.none with
    | some _ => runLiteral vs en d
    | Option.none =>
        match assoc? vs env.litTypes with
        | Option.none => runLiteral vs en d
        | some cs => tryLitClasses env vs en d cs

def bindPy (r : Outcome Py) (k : Py → Outcome Val) : Outcome Val :=
  match r with | .ok d => k d | .invalid e => .invalid e | .crash x => .crash x

/-- `OptionalMethod` with a coercer: `coercer(NoneType, data)` is tried inside the `except` clause; when the datum is not coercible to `None`
    either, the value method's error is merged with `bad_type(data, NoneType)` as without coercion (repair of row 65) -/
def optionalTailC (env : CoerceEnv) (d : Py) (r : Outcome Val) : Outcome Val :=
  match r with
  | .invalid e => match coerce env .null d with
      | .ok _ => .ok .null
      | .invalid _ => optionalTail d (.invalid e)
      | .crash x => .crash x
  | r => r

mutual
def run : Meth → Py → Outcome Val
  | .none, d => runNone d
  | .bool, d => runBool d
  | .int, d => runInt {} d
  | .float ab, d => runFloat ab {} d
  | .str, d => runStr {} d
  | .cint c, d => runInt c d
  | .cfloat ab c, d => runFloat ab c d
  | .cstr c, d => runStr c d
  | .any c, d => runAny c d
  | .listCheckOnly c m, d => onList d (fun xs =>
      finish (c.listErrors xs) (collect (fun x => run m x) 0 xs) (fun _ => .ok (asVal d)))
  | .list c m, d => onList d (fun xs =>
      finish (c.listErrors xs) (collect (fun x => run m x) 0 xs) (fun vs => .ok (.list vs)))
  | .set c m, d => onList d (fun xs =>
      finish (c.listErrors xs) (collectSet (fun x => run m x) 0 xs) mkSet)
  | .frozenset m, d => mapVal (run m d) listToFrozenset
  | .vtuple m, d => mapVal (run m d) listToTuple
  | .tuple dropE c ms, d => onList d (fun xs => tupleBody dropE c ms.length xs (runTuple ms 0 xs))
  | .literal vs en, d => runLiteral vs en d
  | .mappingCheckOnly c km vm, d => onDict d (fun kvs =>
      finishMap (c.dictErrors kvs.length)
        (collectItems true (fun x => run km x) (fun x => run vm x) kvs) (asVal d))
  | .mapping c km vm, d => onDict d (fun kvs =>
      finishMap (c.dictErrors kvs.length)
        (collectItems false (fun x => run km x) (fun x => run vm x) kvs)
        (.dict (mkItems (fun x => run km x) (fun x => run vm x) kvs)))
  | .simpleObj ci _ fs, d => onDict d (fun kvs =>
      finishSimple ci (infosM fs) (aliasesM fs) (runFields false fs kvs) kvs)
  | .obj ci _ c ap fs, d => onDict d (fun kvs =>
      finishObj ci (infosM fs) (c.dictErrors kvs.length) ap (aliasesM fs) (runFields true fs kvs) kvs)
  | .optional m, d => if d.isNull then .ok .null else optionalTail d (run m d)
  | .coerced env c m, d => bindPy (coerce env c d) (fun d' => run m d')
  | .optionalC env m, d => if d.isNull then .ok .null else optionalTailC env d (run m d)
  | .literalC env vs en, d => runLiteralC env vs en d
  | .unionByType tbl, d =>
      match d.jclass? with
      | Option.none => badType (tbl.map (·.1)) d   -- KeyError → bad_type (total since the repair of row 6)
      | some c => runByType tbl tbl c d
  | .union ms, d => runUnion ms d Option.none
  | .fail exn, _ => .crash exn
termination_by structural m => m
def runTuple : List Meth → Nat → List Py → Acc
  | m :: ms, i, x :: xs => stepAcc (.idx i) (run m x) (runTuple ms (i+1) xs)
  | _, _, _ => {}
termination_by structural ms => ms
/-- field loop; `useFbod = false` for `SimpleObjectMethod` (which is only built without fall-back) -/
def runFields (useFbod : Bool) : List (FieldInfo × Meth) → List (String × Py) → FAcc
  | [], _ => {}
  | (f, m) :: fs, kvs =>
      stepField f (useFbod && f.fbod) ((lookupKey kvs f.alias).map (fun x => run m x))
        (runFields useFbod fs kvs)
termination_by structural fs => fs
def aliasesM : List (FieldInfo × Meth) → List String
  | [] => []
  | (f, _) :: fs => f.alias :: aliasesM fs
termination_by structural fs => fs
def infosM : List (FieldInfo × Meth) → List FieldInfo
  | [] => []
  | (f, _) :: fs => f :: infosM fs
termination_by structural fs => fs
def runUnion : List Meth → Py → Option Err → Outcome Val
  | [], _, err => unionEnd err
  | m :: ms, d, err => unionStep (run m d) (fun e => runUnion ms d e) err
termination_by structural ms => ms
/-- dispatch on `type(data)`; `all` is the whole table (for the `bad_type` messages) -/
def runByType : List (JClass × Meth) → List (JClass × Meth) → JClass → Py → Outcome Val
  | [], all, _, d => badType (all.map (·.1)) d
  | (c', m) :: rest, all, c, d =>
      if c' = c then byTypeTail ((all.map (·.1)).filter (· != c)) d (run m d)
      else runByType rest all c d
termination_by structural tbl => tbl
end

/-! ## compilation: `DeserializationMethodVisitor` -/

-- `CHECK_ONLY_METHODS` / `check_only`
mutual
def Meth.checkOnly : Meth → Bool
  | .none | .bool | .int | .str | .cint _ | .cstr _ => true
  | .listCheckOnly _ _ | .mappingCheckOnly _ _ _ => true
  | .optional m => m.checkOnly
  | .union ms => checkOnlyL ms
  | .unionByType tbl => checkOnlyT tbl
  | _ => false
termination_by structural m => m
def checkOnlyL : List Meth → Bool
  | [] => true
  | m :: ms => m.checkOnly && checkOnlyL ms
termination_by structural ms => ms
def checkOnlyT : List (JClass × Meth) → Bool
  | [] => true
  | (_, m) :: ms => m.checkOnly && checkOnlyT ms
termination_by structural ms => ms
end

/-- the `cls` of the factory built for a type (`_factory(factory, cls)`) -/
def Ty.factoryCls : Ty → Option JClass
  | .null => some .null | .bool => some .bool | .int => some .int | .float => some .float
  | .str => some .str
  | .list _ | .set _ | .frozenset _ | .vtuple _ | .tuple _ => some .list
  | .mapping _ _ | .obj _ _ => some .dict
  | .newtype _ t => t.factoryCls
  | .ann _ t => t.factoryCls
  | .any | .union _ | .literal _ | .enum _ _ => Option.none

def listSel (o : DOpts) (c : Constraints) (m : Meth) : Meth :=
  if o.noCopy && m.checkOnly then .listCheckOnly c m else .list c m

def mappingSel (o : DOpts) (c : Constraints) (k v : Meth) : Meth :=
  if o.noCopy && k.checkOnly && v.checkOnly then .mappingCheckOnly c k v else .mapping c k v

def simpleOk : List (FieldInfo × Meth) → Bool
  | [] => true
  | (f, m) :: fs => m.checkOnly && f.alias == f.name && !f.fbod && f.requiredBy.isEmpty && simpleOk fs

def ctorOf (o : DOpts) (ci : ClassInfo) : Ctor :=
  if ci.kind == .typedDict then .noCtor
  else if o.overrideCtor && ci.raw && ci.kind == .dataclass then .fields else .raw

/-- `object()`'s choice between `SimpleObjectMethod` and `ObjectMethod` -/
def objSel (o : DOpts) (ci : ClassInfo) (c : Constraints) (fs : List (FieldInfo × Meth)) : Meth :=
  let td := ci.kind == .typedDict
  if !c.hasDict && (td == o.additionalProperties) && (!td || o.noCopy) && simpleOk fs
  then .simpleObj ci (ctorOf o ci) fs
  else .obj ci (ctorOf o ci) c o.additionalProperties fs

def dedupCls (cs : List JClass) : List JClass :=
  cs.foldl (fun acc c => if acc.contains c then acc else acc ++ [c]) []

/-- `union()`'s choice between `OptionalMethod`, `UnionByTypeMethod`, `UnionMethod` -/
def unionSel (clss : List (Option JClass)) (hasNone : Bool) (ms : List Meth) : Meth :=
  let known := clss.filterMap id
  if hasNone && ms.length == 2 then
    match (clss.zip ms).find? (fun p => p.1 != some .null) with
    | some (_, m) => .optional m
    | Option.none => .fail "StopIteration"      -- `next(...)` over an empty generator
  else if (dedupCls known).length == ms.length && !known.contains .float then
    -- `dict(zip(classes, methods))`; not used when an alternative is `float`, which also accepts `int` data
    .unionByType (known.zip ms)
  else .union ms

def Ty.isNull : Ty → Bool | .null => true | _ => false

def withFbod (o : DOpts) (f : FieldInfo) : FieldInfo := { f with fbod := f.fbod || o.fallBackOnDefault }

mutual
/-- `cs`: constraints merged in from enclosing `Annotated[..., schema(...)]` / per-call `schema` -/
def compile (o : DOpts) : Constraints → Ty → Meth
  | _, .null => .none
  | _, .bool => .bool
  | cs, .int => if cs.hasNum then .cint cs else .int
  | cs, .float => if cs.hasNum then .cfloat o.quirks.floatAcceptsBool cs else .float o.quirks.floatAcceptsBool
  | cs, .str => if cs.hasStr then .cstr cs else .str
  | cs, .any => .any cs
  | cs, .list t => listSel o cs (compile o {} t)
  | cs, .set t => .set cs (compile o {} t)
  | cs, .frozenset t => .frozenset (listSel o cs (compile o {} t))
  | cs, .vtuple t => .vtuple (listSel o cs (compile o {} t))
  | cs, .tuple ts => .tuple o.quirks.tupleDropsErrors cs (compileL o {} ts)
  | cs, .mapping k v => mappingSel o cs (compile o {} k) (compile o {} v)
  | cs, .union ts => unionSel (clsL ts) (anyNull ts) (compileL o cs ts)
  | _, .literal vs => .literal vs Option.none
  | _, .enum cls members => .literal (members.map (·.2)) (some (cls, members.map (·.1)))
  | cs, .newtype _ t => compile o cs t
  | cs, .ann c t => compile o (c.merge cs) t
  | cs, .obj ci fs => objSel o ci cs (compileF o fs)
termination_by structural _ t => t
def compileL (o : DOpts) : Constraints → List Ty → List Meth
  | _, [] => []
  | cs, t :: ts => compile o cs t :: compileL o cs ts
termination_by structural _ ts => ts
def compileF (o : DOpts) : List (FieldInfo × Ty) → List (FieldInfo × Meth)
  | [] => []
  | (f, t) :: fs => (withFbod o f, compile o {} t) :: compileF o fs
termination_by structural fs => fs
def clsL : List Ty → List (Option JClass)
  | [] => []
  | t :: ts => t.factoryCls :: clsL ts
termination_by structural ts => ts
def anyNull : List Ty → Bool
  | [] => false
  | t :: ts => t.isNull || anyNull ts
termination_by structural ts => ts
end

/-! ## compilation with a coercer -/

/-- `union()` when a coercer is set: alternatives with a class are `CoercerMethod`s, so the by-type table
    is never chosen -/
def unionSelC (env : CoerceEnv) (clss : List (Option JClass)) (hasNone : Bool) (ms : List Meth) : Meth :=
  if hasNone && ms.length == 2 then
    match (clss.zip ms).find? (fun p => p.1 != some .null) with
    | some (_, m) => .optionalC env m
    | Option.none => .fail "StopIteration"
  else .union ms

mutual
def compileC (o : DOpts) (env : CoerceEnv) : Constraints → Ty → Meth
  | _, .null => .coerced env .null .none
  | _, .bool => .coerced env .bool .bool
  | cs, .int => .coerced env .int (if cs.hasNum then .cint cs else .int)
  | cs, .float => .coerced env .float
      (if cs.hasNum then .cfloat o.quirks.floatAcceptsBool cs else .float o.quirks.floatAcceptsBool)
  | cs, .str => .coerced env .str (if cs.hasStr then .cstr cs else .str)
  | cs, .any => .any cs
  | cs, .list t => .coerced env .list (listSel o cs (compileC o env {} t))
  | cs, .set t => .coerced env .list (.set cs (compileC o env {} t))
  | cs, .frozenset t => .coerced env .list (.frozenset (listSel o cs (compileC o env {} t)))
  | cs, .vtuple t => .coerced env .list (.vtuple (listSel o cs (compileC o env {} t)))
  | cs, .tuple ts => .coerced env .list (.tuple o.quirks.tupleDropsErrors cs (compileCL o env {} ts))
  | cs, .mapping k v => .coerced env .dict (mappingSel o cs (compileC o env {} k) (compileC o env {} v))
  | cs, .union ts => unionSelC env (clsL ts) (anyNull ts) (compileCL o env cs ts)
  | _, .literal vs => .literalC env vs Option.none
  | _, .enum cls members => .literalC env (members.map (·.2)) (some (cls, members.map (·.1)))
  | cs, .newtype _ t => compileC o env cs t
  | cs, .ann c t => compileC o env (c.merge cs) t
  | cs, .obj ci fs => .coerced env .dict (objSel o ci cs (compileCF o env fs))
termination_by structural _ t => t
def compileCL (o : DOpts) (env : CoerceEnv) : Constraints → List Ty → List Meth
  | _, [] => []
  | cs, t :: ts => compileC o env cs t :: compileCL o env cs ts
termination_by structural _ ts => ts
def compileCF (o : DOpts) (env : CoerceEnv) : List (FieldInfo × Ty) → List (FieldInfo × Meth)
  | [] => []
  | (f, t) :: fs => (withFbod o f, compileC o env {} t) :: compileCF o env fs
termination_by structural fs => fs
end

mutual
/-- an exception raised while the method tree is being built surfaces at the first use -/
def Meth.failure? : Meth → Option String
  | .fail exn => some exn
  | .listCheckOnly _ m | .list _ m | .set _ m | .frozenset m | .vtuple m | .optional m
  | .coerced _ _ m | .optionalC _ m => m.failure?
  | .tuple _ _ ms | .union ms => failureL ms
  | .mappingCheckOnly _ k v | .mapping _ k v => (k.failure?).orElse (fun _ => v.failure?)
  | .simpleObj _ _ fs | .obj _ _ _ _ fs => failureF fs
  | .unionByType tbl => failureT tbl
  | _ => Option.none
termination_by structural m => m
def failureL : List Meth → Option String
  | [] => Option.none
  | m :: ms => (m.failure?).orElse (fun _ => failureL ms)
termination_by structural ms => ms
def failureF : List (FieldInfo × Meth) → Option String
  | [] => Option.none
  | (_, m) :: ms => (m.failure?).orElse (fun _ => failureF ms)
termination_by structural ms => ms
def failureT : List (JClass × Meth) → Option String
  | [] => Option.none
  | (_, m) :: ms => (m.failure?).orElse (fun _ => failureT ms)
termination_by structural ms => ms
end

/-- `deserialize(T, data, **options)` (`schema=` folded into `cs`) -/
def deserialize (o : DOpts) (cs : Constraints) (t : Ty) (d : Py) : Outcome Val :=
  let m := compile o cs t
  match m.failure? with
  | some exn => .crash exn
  | Option.none => run m d

/-- `deserialize(T, data, coerce=True, **options)` -/
def deserializeC (o : DOpts) (env : CoerceEnv) (cs : Constraints) (t : Ty) (d : Py) : Outcome Val :=
  let m := compileC o env cs t
  match m.failure? with
  | some exn => .crash exn
  | Option.none => run m d

end Api
