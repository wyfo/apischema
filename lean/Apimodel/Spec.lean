import Apimodel.Deser
/-!
# Specification of deserialization: what is accepted (`conforms ap fbod cs T d`, C01), which errors a rejection
lists (`violations cs T d`, C02) and which value an accepted datum becomes (`image T d`, C01)

Written rule by rule from the documentation; it does not mention method trees, `no_copy`,
constructor strategies or union dispatch (of `Deser` it uses `lookupKey`, `Py.isNull` and, for `dependent_required`, `depViolated`). `cs` are the constraints inherited from enclosing
`Annotated[..., schema(...)]`.
-/
namespace Api

def Py.isBool : Py → Bool | .bool _ => true | _ => false

def intOk (cs : Constraints) : Py → Bool
  | .int i => (cs.numErrors (.int i)).isEmpty
  | _ => false

def intAsFloatOk (cs : Constraints) (i : Int) : Bool :=
  match intToFlt i with
  | some f => (cs.numErrors (.flt f)).isEmpty
  | Option.none => false

/-- a `float`, or an `int` that fits a double (`bool` is not a number) -/
def floatOk (cs : Constraints) : Py → Bool
  | .float f => (cs.numErrors (.flt f)).isEmpty
  | .int i => intAsFloatOk cs i
  | _ => false

def strOk (cs : Constraints) : Py → Bool
  | .str s => (cs.strErrors s).isEmpty
  | _ => false

/-- `Any` accepts everything; constraints apply to data of the class they concern -/
def anyOk (cs : Constraints) : Py → Bool
  | .int i => (cs.numErrors (.int i)).isEmpty
  | .float f => (cs.numErrors (.flt f)).isEmpty
  | .str s => (cs.strErrors s).isEmpty
  | .list xs => cs.listErrors xs == some []
  | .dict kvs => (cs.dictErrors kvs.length).isEmpty
  | .dictNS kvs => (cs.dictErrors kvs.length).isEmpty
  | _ => true

def listOk (cs : Constraints) (d : Py) (p : Py → Bool) : Bool :=
  match d with
  | .list xs => cs.listErrors xs == some [] && xs.all p
  | _ => false

def tupleOk (cs : Constraints) (d : Py) (n : Nat) (p : List Py → Bool) : Bool :=
  match d with
  | .list xs => xs.length == n && cs.listErrors xs == some [] && p xs
  | _ => false

def dictOk (cs : Constraints) (d : Py) (p : List (String × Py) → Bool) : Bool :=
  match d with
  | .dict kvs => (cs.dictErrors kvs.length).isEmpty && p kvs
  | _ => false

/-- a declared field: if present it must conform — unless it is optional and falls back on its
    default —, if absent it must not be required -/
def fieldOk (fbod : Bool) (f : FieldInfo) (o : Option Py) (p : Py → Bool) : Bool :=
  match o with
  | some x => p x || (!f.required && (f.fbod || fbod))
  | Option.none => !f.required

/-- `dependent_required`: no field is absent while a field that requires it is present -/
def depOk (infos : List FieldInfo) (kvs : List (String × Py)) : Bool := infos.all (fun f => !depViolated f kvs)

def infosOf (fs : List (FieldInfo × Ty)) : List FieldInfo := fs.map (·.1)

theorem depOk_of_noDeps {infos : List FieldInfo} (h : ∀ f ∈ infos, f.requiredBy = []) (kvs : List (String × Py)) :
    depOk infos kvs = true := by
  unfold depOk
  exact List.all_eq_true.2 (fun f hf => by rw [depViolated_false (h f hf)]; rfl)


def noUnexpected (ap : Bool) (aliases : List String) (kvs : List (String × Py)) : Bool :=
  ap || kvs.all (fun kv => aliases.contains kv.1)

mutual
def conforms (ap fbod : Bool) : Constraints → Ty → Py → Bool
  | _, .null, d => d.isNull
  | _, .bool, d => d.isBool
  | cs, .int, d => intOk cs d
  | cs, .float, d => floatOk cs d
  | cs, .str, d => strOk cs d
  | cs, .any, d => anyOk cs d
  | cs, .list t, d => listOk cs d (fun x => conforms ap fbod {} t x)
  | cs, .vtuple t, d => listOk cs d (fun x => conforms ap fbod {} t x)
  | cs, .set t, d => listOk cs d (fun x => conforms ap fbod {} t x)
  | cs, .frozenset t, d => listOk cs d (fun x => conforms ap fbod {} t x)
  | cs, .tuple ts, d => tupleOk cs d ts.length (fun xs => conformsZip ap fbod ts xs)
  | cs, .mapping k v, d => dictOk cs d (fun kvs =>
      kvs.all (fun kv => conforms ap fbod {} k (.str kv.1) && conforms ap fbod {} v kv.2))
  | cs, .union ts, d => conformsAny ap fbod cs ts d
  | _, .literal vs, d => d.hashable && vs.any (litMatches d)
  | _, .enum _ ms, d => d.hashable && ms.any (fun m => litMatches d m.2)
  | cs, .newtype _ t, d => conforms ap fbod cs t d
  | cs, .ann c t, d => conforms ap fbod (c.merge cs) t d
  | cs, .obj _ fs, d => dictOk cs d (fun kvs => conformsF ap fbod fs kvs && noUnexpected ap (aliasesOf fs) kvs && depOk (infosOf fs) kvs)
termination_by structural _ t => t
def conformsZip (ap fbod : Bool) : List Ty → List Py → Bool
  | t :: ts, x :: xs => conforms ap fbod {} t x && conformsZip ap fbod ts xs
  | _, _ => true
termination_by structural ts => ts
def conformsAny (ap fbod : Bool) : Constraints → List Ty → Py → Bool
  | _, [], _ => false
  | cs, t :: ts, d => conforms ap fbod cs t d || conformsAny ap fbod cs ts d
termination_by structural _ ts => ts
def conformsF (ap fbod : Bool) : List (FieldInfo × Ty) → List (String × Py) → Bool
  | [], _ => true
  | (f, t) :: fs, kvs => fieldOk fbod f (lookupKey kvs f.alias) (fun x => conforms ap fbod {} t x) && conformsF ap fbod fs kvs
termination_by structural fs => fs
def aliasesOf : List (FieldInfo × Ty) → List String
  | [] => []
  | (f, _) :: fs => f.alias :: aliasesOf fs
termination_by structural fs => fs
end

def Outcome.isOk {α} : Outcome α → Bool | .ok _ => true | _ => false

/-- what `ValidationError.errors` would list -/
def Outcome.errs : Outcome Val → Errs
  | .invalid e => e.flatten
  | _ => []

/-! ### the errors of a rejection, on the index-keyed fragment (`Ty.efrag`; elsewhere `violations` is `[]`) -/
def ownErrs (rs : List Rule) : Errs := rs.map (fun r => ([], r))

/-- wrong JSON class: one message at the datum itself. A datum of no JSON class (`.other`) lists nothing here, whereas
    `bad_type` names its class: C02 compares `violations` with the errors on JSON data only (`Py.json`) -/
def badT (c : JClass) (d : Py) : Errs :=
  match d.jclass? with
  | some f => [([], .badType c (some f))]
  | Option.none => []

def violIdx (f : Py → Errs) : Nat → List Py → Errs
  | _, [] => []
  | i, x :: xs => pre (.idx i) (f x) ++ violIdx f (i+1) xs

mutual
def violations : Constraints → Ty → Py → Errs
  | _, .null, d => match d with | .null => [] | _ => badT .null d
  | _, .bool, d => match d with | .bool _ => [] | _ => badT .bool d
  | cs, .int, d => match d with | .int i => ownErrs (cs.numErrors (.int i)) | _ => badT .int d
  | cs, .float, d => match d with
      | .float f => ownErrs (cs.numErrors (.flt f))
      | .int i => (match intToFlt i with | some f => ownErrs (cs.numErrors (.flt f)) | Option.none => [])
      | _ => badT .float d
  | cs, .str, d => match d with | .str s => ownErrs (cs.strErrors s) | _ => badT .str d
  | cs, .any, d => match d with
      | .int i => ownErrs (cs.numErrors (.int i))
      | .float f => ownErrs (cs.numErrors (.flt f))
      | .str s => ownErrs (cs.strErrors s)
      | .list xs => ownErrs ((cs.listErrors xs).getD [])
      | .dict kvs => ownErrs (cs.dictErrors kvs.length)
      | _ => []
  | cs, .list t, d => match d with
      | .list xs => ownErrs ((cs.listErrors xs).getD []) ++ violIdx (fun x => violations {} t x) 0 xs
      | _ => badT .list d
  | cs, .vtuple t, d => match d with
      | .list xs => ownErrs ((cs.listErrors xs).getD []) ++ violIdx (fun x => violations {} t x) 0 xs
      | _ => badT .list d
  | cs, .tuple ts, d => match d with
      | .list xs =>
          if xs.length < ts.length then [([], .minItems ts.length)]
          else if xs.length > ts.length then [([], .maxItems ts.length)]
          else ownErrs ((cs.listErrors xs).getD []) ++ violZip ts 0 xs
      | _ => badT .list d
  | cs, .newtype _ t, d => violations cs t d
  | cs, .ann c t, d => violations (c.merge cs) t d
  | _, _, _ => []
termination_by structural _ t => t
def violZip : List Ty → Nat → List Py → Errs
  | t :: ts, i, x :: xs => pre (.idx i) (violations {} t x) ++ violZip ts (i+1) xs
  | _, _, _ => []
termination_by structural ts => ts
end

mutual
/-- the value prescribed by the data model (runtime classes included); meant for a type of `Ty.efrag` and an accepted
    datum: elsewhere it is a placeholder (`.null` for an integer beyond the doubles, `asVal d` for a set, a mapping, an object) -/
def image : Ty → Py → Val
  | .float, d => match d with
      | .int i => (match intToFlt i with | some f => .float f | Option.none => .null)
      | d => asVal d
  | .list t, d => match d with | .list xs => .list (xs.map (fun x => image t x)) | d => asVal d
  | .vtuple t, d => match d with | .list xs => .tuple (xs.map (fun x => image t x)) | d => asVal d
  | .tuple ts, d => match d with | .list xs => .tuple (imageZip ts xs) | d => asVal d
  | .newtype _ t, d => image t d
  | .ann _ t, d => image t d
  | _, d => asVal d
termination_by structural t => t
def imageZip : List Ty → List Py → List Val
  | t :: ts, x :: xs => image t x :: imageZip ts xs
  | _, _ => []
termination_by structural ts => ts
end

/-! ### congruence of the combinators: the element predicates need only agree on the elements of the datum -/
theorem all_congr_mem {α} {l : List α} {p q : α → Bool} (h : ∀ a ∈ l, p a = q a) : l.all p = l.all q := by
  induction l with
  | nil => rfl
  | cons a l ih =>
    simp only [List.all_cons, h a (List.mem_cons_self ..), ih (fun b hb => h b (List.mem_cons_of_mem _ hb))]

theorem listOk_congr_mem {c d} {p q : Py → Bool} (h : ∀ xs, d = .list xs → ∀ x ∈ xs, p x = q x) :
    listOk c d p = listOk c d q := by
  unfold listOk; split
  · rw [all_congr_mem (h _ rfl)]
  · rfl

theorem tupleOk_congr {c d n} {p q : List Py → Bool} (h : ∀ xs, d = .list xs → p xs = q xs) :
    tupleOk c d n p = tupleOk c d n q := by
  unfold tupleOk; split
  · rw [h _ rfl]
  · rfl

theorem dictOk_congr {c d} {p q : List (String × Py) → Bool} (h : ∀ kvs, d = .dict kvs → p kvs = q kvs) :
    dictOk c d p = dictOk c d q := by
  unfold dictOk; split
  · rw [h _ rfl]
  · rfl

end Api
