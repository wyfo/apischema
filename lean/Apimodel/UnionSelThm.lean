import Apimodel.NoCrashThm
import Apimodel.UnionThm
/-!
# C13 / C01 for general unions at one level: whatever `union()` selects behaves as try-each, and accepts
exactly when some alternative conforms
-/
namespace Api

/-! ### `dict(zip(classes, methods))` has as many entries as alternatives only if the classes are all known and distinct -/
def dstep (acc : List JClass) (c : JClass) : List JClass := if acc.contains c then acc else acc ++ [c]

theorem foldl_dstep_spec : ∀ (l acc : List JClass), acc.Nodup →
    ∃ l', l.foldl dstep acc = acc ++ l' ∧ l'.Sublist l ∧ (acc ++ l').Nodup
  | [], acc, h => ⟨[], by simp, .slnil, by simpa using h⟩
  | c :: l, acc, h => by
    rw [List.foldl_cons]
    by_cases hc : acc.contains c = true
    · obtain ⟨l', h1, h2, h3⟩ := foldl_dstep_spec l acc h
      exact ⟨l', by rw [dstep, if_pos hc, h1], h2.cons c, h3⟩
    · have hnd : (acc ++ [c]).Nodup := List.nodup_append.2
        ⟨h, by simp, fun a ha b hb hab => hc (by simpa [List.mem_singleton.1 hb ▸ hab] using ha)⟩
      obtain ⟨l', h1, h2, h3⟩ := foldl_dstep_spec l (acc ++ [c]) hnd
      exact ⟨c :: l', by rw [dstep, if_neg hc, h1, List.append_assoc]; rfl, h2.cons_cons c, by simpa using h3⟩

theorem dedupCls_length_le (l : List JClass) : (dedupCls l).length ≤ l.length := by
  -- `dedupCls l` unfolds to `l.foldl dstep []`: `show … from h1`, here and below
  obtain ⟨l', h1, h2, _⟩ := foldl_dstep_spec l [] List.nodup_nil
  rw [show dedupCls l = l' from h1]; exact h2.length_le

/-- a sub-list as long as the list is the list -/
theorem dedupCls_nodup {l : List JClass} (h : (dedupCls l).length = l.length) : l.Nodup := by
  obtain ⟨l', h1, h2, h3⟩ := foldl_dstep_spec l [] List.nodup_nil
  rw [show dedupCls l = l' from h1] at h
  rw [← h2.eq_of_length h]; simpa using h3

theorem filterMap_id_full : ∀ {l : List (Option JClass)}, (l.filterMap id).length = l.length →
    l = (l.filterMap id).map some
  | [], _ => rfl
  | none :: l, h => by
    have := List.length_filterMap_le id l
    simp at h; omega
  | some c :: l, h => by
    simp only [List.filterMap_cons, id, List.length_cons, Nat.add_right_cancel_iff] at h
    simp only [List.filterMap_cons, id, List.map_cons]
    rw [← filterMap_id_full h]

/-- `union()` selects the by-type table only when every alternative has a class, the classes are distinct and none is
    `float` -/
theorem byType_selected {clss : List (Option JClass)} {n : Nat} (hlen : clss.length = n)
    (h : ((dedupCls (clss.filterMap id)).length == n && !(clss.filterMap id).contains JClass.float) = true) :
    clss = (clss.filterMap id).map some ∧ (clss.filterMap id).Nodup ∧ JClass.float ∉ clss.filterMap id := by
  simp only [Bool.and_eq_true, beq_iff_eq, Bool.not_eq_true', List.contains_eq_mem, decide_eq_false_iff_not] at h
  have h1 := dedupCls_length_le (clss.filterMap id)
  have h2 := List.length_filterMap_le id clss
  exact ⟨filterMap_id_full (by omega), dedupCls_nodup (by omega), h.2⟩

theorem firstOk_isSome : ∀ (ms : List Meth) (d : Py), (firstOk ms d).isSome = ms.any (fun m => (run m d).isOk)
  | [], _ => rfl
  | m :: ms, d => by
    rw [firstOk, List.any_cons, ← firstOk_isSome ms d]
    cases hr : run m d <;> simp [Outcome.val?, Outcome.isOk]

/-- what the dispatch lemmas need about one compiled alternative, *at one datum* -/
structure AltAt (o : DOpts) (cs : Constraints) (t : Ty) (d : Py) : Prop where
  nc : (run (compile o cs t) d).isCrash = false
  acc : (run (compile o cs t) d).isOk = conforms o.additionalProperties false cs t d

theorem factoryCls_of_not_noFloat : ∀ (t : Ty), t.noFloat = false → t.factoryCls = some .float
  | .float, _ => rfl
  | .newtype _ t, h | .ann _ t, h => by rw [Ty.noFloat] at h; rw [Ty.factoryCls]; exact factoryCls_of_not_noFloat t h
  | .null, h | .bool, h | .int, h | .str, h | .any, h | .list _, h | .set _, h | .frozenset _, h | .vtuple _, h
  | .tuple _, h | .mapping _ _, h | .union _, h | .literal _, h | .enum _ _, h | .obj _ _, h => by
    simp [Ty.noFloat] at h

theorem mem_clsL : ∀ {ts : List Ty} {t : Ty}, t ∈ ts → t.factoryCls ∈ clsL ts :=
  fun h => clsL_eq_map _ ▸ List.mem_map_of_mem h

theorem any_compileL {o : DOpts} {cs : Constraints} : ∀ (ts : List Ty) (d : Py),
    (∀ t ∈ ts, AltAt o cs t d) →
    (compileL o cs ts).any (fun m => (run m d).isOk) = conformsAny o.additionalProperties false cs ts d
  | [], d, _ => by rw [compileL, conformsAny]; rfl
  | t :: ts, d, h => by
    rw [compileL, conformsAny, List.any_cons, (h t (List.mem_cons_self ..)).acc,
      any_compileL ts d (fun t' ht' => h t' (List.mem_cons_of_mem _ ht'))]

theorem nc_compileL {o : DOpts} {cs : Constraints} {d : Py} (ts : List Ty) (h : ∀ t ∈ ts, AltAt o cs t d) :
    ∀ m ∈ compileL o cs ts, (run m d).isCrash = false := by
  rw [compileL_eq_map]; exact List.forall_mem_map.2 fun t ht => (h t ht).nc

theorem clsL_length (ts) : (clsL ts).length = ts.length := by rw [clsL_eq_map, List.length_map]

/-- when `union()` builds `OptionalMethod` (two alternatives, one of them `None`), `next(...)` picks the alternative
    that is not `None`, whatever the methods `g` compiled for the alternatives -/
theorem optional_pick (g : Ty → Meth) {ts : List Ty} (hlen : ts.length = 2) (hany : anyNull ts = true)
    (hside : ∀ t ∈ ts, t.factoryCls = some .null → t = .null) (hnn : ¬ ∀ t ∈ ts, t = .null) :
    ∃ t, (ts = [t, .null] ∨ ts = [.null, t]) ∧
      ((clsL ts).zip (ts.map g)).find? (fun p => p.1 != some JClass.null) = some (t.factoryCls, g t) := by
  match ts, hlen with
  | [a, b], _ =>
    have isNull_eq : ∀ t : Ty, t.isNull = true → t = .null := by
      intro t; fun_cases Ty.isNull t
      · exact fun _ => rfl
      · exact nofun
    simp only [anyNull_eq_any, List.any_cons, List.any_nil, Bool.or_false, Bool.or_eq_true] at hany
    simp only [clsL_eq_map, List.map_cons, List.map_nil, List.zip_cons_cons, List.find?_cons]
    by_cases hca : a.factoryCls = some .null
    · -- `a` is `None`, so `b` is not
      cases hside a (by simp) hca
      have hcb : b.factoryCls ≠ some .null := fun hcb => hnn (by simp [hside b (by simp) hcb])
      have hcb : (b.factoryCls != some .null) = true := by simpa using hcb
      exact ⟨b, Or.inr rfl, by simp [Ty.factoryCls, hcb]⟩
    · -- `a` is not `None`, so `b` is
      have hb : b = .null := hany.elim (fun h => absurd (isNull_eq a h ▸ rfl) hca) (isNull_eq b)
      have hca : (a.factoryCls != some .null) = true := by simpa using hca
      exact ⟨a, Or.inl (by rw [hb]), by simp [hca]⟩

/-- the by-type table built from the alternatives: classes in step with methods, sound at the datum (an accepted datum
    conforms, and conforming data have the JSON class of the type: `conforms_class`) -/
theorem table_spec {o : DOpts} {cs : Constraints} {d : Py} : ∀ (ts : List Ty) (known : List JClass),
    clsL ts = known.map some → (∀ t ∈ ts, AltAt o cs t d ∧ t.noFloat = true) →
    (known.zip (compileL o cs ts)).map (·.1) = known ∧
    (known.zip (compileL o cs ts)).map (·.2) = compileL o cs ts ∧
    ByTypeSoundAt (known.zip (compileL o cs ts)) d
  | [], known, hk, _ => by
    rw [clsL] at hk
    cases known with
    | nil => rw [compileL]; exact ⟨rfl, rfl, fun p hp => by cases hp⟩
    | cons c k => cases hk
  | t :: ts, known, hk, h => by
    rw [clsL] at hk
    cases known with
    | nil => cases hk
    | cons c k =>
      simp only [List.map_cons, List.cons.injEq] at hk
      obtain ⟨ih1, ih2, ih3⟩ := table_spec ts k hk.2 (fun t' ht' => h t' (List.mem_cons_of_mem _ ht'))
      rw [compileL, List.zip_cons_cons, List.map_cons, List.map_cons, ih1, ih2]
      refine ⟨rfl, rfl, fun p hp v hv => ?_⟩
      rcases List.mem_cons.1 hp with rfl | hp'
      · have ht := h t (List.mem_cons_self ..)
        have hacc := ht.1.acc
        simp only at hv
        rw [hv] at hacc
        exact conforms_class _ _ cs t d hacc.symm c hk.1 ht.2
      · exact ih3 p hp' v hv

theorem conformsAny_noClass (ap : Bool) (cs : Constraints) (d : Py) (hd : d.jclass? = Option.none) :
    ∀ (ts : List Ty) (known : List JClass), clsL ts = known.map some → (∀ t ∈ ts, t.noFloat = true) →
    conformsAny ap false cs ts d = false := by
  intro ts known hk hnf
  rw [conformsAny_eq_any, List.any_eq_false]
  intro t ht hc
  have hcls := mem_clsL ht
  rw [hk] at hcls
  obtain ⟨c, _, hcls⟩ := List.mem_map.1 hcls
  have := conforms_class ap false cs t d hc c hcls.symm (hnf t ht)
  rw [hd] at this; cases this

/-- **C13 at the level of `union()`, at one datum.** Whatever method is selected for `Union[T1, …, Tn]` —
    `OptionalMethod`, the by-type table, or the sequential method — the datum is accepted iff it conforms to some
    alternative, provided each compiled alternative neither crashes on the datum nor disagrees with the specification
    on it, a `None`-class alternative is `None` itself and not every alternative is `None`. -/
theorem union_accepts_at (o : DOpts) (cs : Constraints) (ts : List Ty) (d : Py)
    (halt : ∀ t ∈ ts, AltAt o cs t d)
    (hside : ∀ t ∈ ts, t.factoryCls = some .null → t = .null)
    (hne : ts ≠ []) (hnn : ¬ (∀ t ∈ ts, t = .null)) :
    (run (unionSel (clsL ts) (anyNull ts) (compileL o cs ts)) d).isOk
      = conformsAny o.additionalProperties false cs ts d := by
  have hany := any_compileL ts d halt
  have hseq : (run (.union (compileL o cs ts)) d).isOk = conformsAny o.additionalProperties false cs ts d := by
    rw [isOk_val?, run, C13_sequential _ d Option.none (nc_compileL ts halt), firstOk_isSome, hany]
  unfold unionSel
  simp only
  split
  · next hopt =>
    rw [Bool.and_eq_true, compileL_length] at hopt
    rw [compileL_eq_map]
    obtain ⟨t, hts, hfind⟩ := optional_pick (compile o cs) (by simpa using hopt.2) hopt.1 hside hnn
    simp only [hfind]
    rw [isOk_optional, (halt t (by rcases hts with rfl | rfl <;> simp)).acc]
    rcases hts with rfl | rfl <;> simp [conformsAny, conforms, Bool.or_comm]
  · split
    · next hbt0 =>
      obtain ⟨hk, hnd, hfl⟩ := byType_selected (clsL_length ts) (by rwa [compileL_length] at hbt0)
      have hnf : ∀ t ∈ ts, t.noFloat = true := fun t ht => by
        cases hf : t.noFloat with
        | true => rfl
        | false =>
          -- a `float` alternative would put the class `float` in the table
          have h1 := mem_clsL ht
          rw [factoryCls_of_not_noFloat t hf, hk] at h1
          obtain ⟨c, hc, hce⟩ := List.mem_map.1 h1
          cases hce; exact absurd hc hfl
      obtain ⟨t1, t2, t3⟩ := table_spec ts _ hk (fun t ht => ⟨halt t ht, hnf t ht⟩)
      cases hc : d.jclass? with
      | some c =>
        rw [isOk_val?, C13_byType_at _ d c t3 (by rw [t1]; exact hnd) hc, t2, firstOk_isSome, hany]
      | none =>
        -- a datum that is not an instance of a JSON class: rejected by the table, and conforming to nothing
        simp only [run]; simp only [hc]
        rw [isOk_badType, conformsAny_noClass _ cs d hc ts _ hk hnf]
    · exact hseq

/-- **C13 / C01 at the level of `union()`**, over the C01 scope of the alternatives -/
theorem C01_accept_union (o : DOpts) (ho : OptsOk o) (cs : Constraints) (hu : cs.unique = false) (ts : List Ty)
    (hts : ∀ t ∈ ts, t.acc = true ∧ t.nouq = true ∧ (t.factoryCls = some .null → t = .null))
    (hne : ts ≠ []) (hnn : ¬ (∀ t ∈ ts, t = .null))
    (d : Py) (hj : d.json = true) (hw : d.wf = true) :
    (run (unionSel (clsL ts) (anyNull ts) (compileL o cs ts)) d).isOk
      = conformsAny o.additionalProperties false cs ts d :=
  union_accepts_at o cs ts d
    (fun t ht => ⟨(no_crash o ho).1 cs t (hts t ht).1 (hts t ht).2.1 hu d (jsonX_of_json.1 d hj),
                  (accepts_iff_conforms o ho).1 cs t (hts t ht).1 d hw⟩)
    (fun t ht => (hts t ht).2.2) hne hnn

/-- the three selections all occur -/
example : (match unionSel (clsL [.int, .str, .list .int]) (anyNull [.int, .str, .list .int]) (compileL {} {} [.int, .str, .list .int]) with
           | .unionByType _ => true | _ => false) = true := by decide +kernel
example : (match unionSel (clsL [.list .int, .tuple [.str]]) (anyNull [.list .int, .tuple [.str]]) (compileL {} {} [.list .int, .tuple [.str]]) with
           | .union _ => true | _ => false) = true := by decide +kernel
/-- a `float` alternative switches the table off (repair of row 3), and the integer is accepted -/
example : (match unionSel (clsL [.float, .str]) (anyNull [.float, .str]) (compileL {} {} [.float, .str]) with
           | .union _ => true | _ => false) = true := by decide +kernel
example : (run (unionSel (clsL [.float, .str]) (anyNull [.float, .str]) (compileL { quirks := Quirks.repaired } {} [.float, .str])) (.int 1)).isOk
    = true := by decide +kernel
example : (match unionSel (clsL [.null, .str]) (anyNull [.null, .str]) (compileL {} {} [.null, .str]) with
           | .optional _ => true | _ => false) = true := by decide +kernel

end Api
