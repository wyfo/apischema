import Apimodel.ErrorsThm
/-! # C02 for `Optional[T]`: the errors of `OptionalMethod` are the violations of `T` and "expected null", own messages first

`OptionalMethod` raises `merge_errors(err, bad_type(data, NoneType))`: the messages of the value's error, then `expected type null`, then the
children of the value's error, which is the order `violationsOpt` prescribes. -/
namespace Api

def rootsOf (es : Errs) : Errs := es.filter (fun p => p.1.isEmpty)
def deepOf (es : Errs) : Errs := es.filter (fun p => !p.1.isEmpty)

def violationsOpt (ap : Bool) (cs : Constraints) (t : Ty) (d : Py) : Errs :=
  if d.isNull || conforms ap false cs t d then []
  else rootsOf (violations cs t d) ++ badT .null d ++ deepOf (violations cs t d)

theorem pre_nonempty (k : Key) (es : Errs) : ∀ p ∈ pre k es, p.1.isEmpty = false := by
  intro p hp; unfold pre at hp; obtain ⟨q, _, rfl⟩ := List.mem_map.1 hp; rfl

theorem flattenL_nonempty : ∀ (cs : List (Key × Err)) (p : Path × Rule), p ∈ flattenL cs → p.1.isEmpty = false
  | [], p, h => by rw [flattenL] at h; cases h
  | (k, e) :: cs, p, h => by
    rw [flattenL, List.mem_append] at h
    rcases h with h | h
    · exact pre_nonempty k _ p h
    · exact flattenL_nonempty cs p h

theorem filter_append_split {α : Type} {q : α → Bool} {l1 l2 : List α} (h1 : ∀ a ∈ l1, q a = true)
    (h2 : ∀ a ∈ l2, q a = false) : (l1 ++ l2).filter q = l1 ∧ (l1 ++ l2).filter (fun a => !q a) = l2 := by
  constructor <;> rw [List.filter_append]
  · rw [List.filter_eq_self.2 h1, List.filter_eq_nil_iff.2 fun a ha => by rw [h2 a ha]; exact Bool.false_ne_true,
      List.append_nil]
  · rw [List.filter_eq_nil_iff.2 fun a ha => by rw [h1 a ha]; exact Bool.false_ne_true,
      List.filter_eq_self.2 fun a ha => by rw [h2 a ha]; rfl, List.nil_append]

theorem mergeKids_nil : ∀ (cs : List (Key × Err)), mergeKids cs [] = cs
  | [] => by rw [mergeKids]
  | (k, e) :: cs => by rw [mergeKids, mergeKids_nil cs]; rfl

theorem merge_ofMsgs (ms : List Rule) (cs : List (Key × Err)) (rs : List Rule) :
    (Err.mk ms cs).merge (.ofMsgs rs) = .mk (ms ++ rs) cs := by
  rw [Err.merge]; simp only [Err.ofMsgs, Err.msgs, Err.children, addMissing, List.foldl_nil, mergeKids_nil]

theorem flatten_merge_msgs (e : Err) (rs : List Rule) :
    (e.merge (.ofMsgs rs)).flatten = rootsOf e.flatten ++ rs.map (fun r => (([] : Path), r)) ++ deepOf e.flatten := by
  cases e with
  | mk ms cs =>
    have hs := filter_append_split (q := fun p : Path × Rule => p.1.isEmpty) (l1 := ms.map fun r => ([], r))
      (fun p hp => by obtain ⟨r, _, rfl⟩ := List.mem_map.1 hp; rfl) (flattenL_nonempty cs)
    rw [merge_ofMsgs, Err.flatten, Err.flatten, List.map_append, rootsOf, deepOf, hs.1, hs.2]

/-- **C02 for `Optional[T]`.** If `m` accepts exactly the conforming data of `T` and its errors are the violations of `T`, the errors of
`OptionalMethod(m)` on a JSON datum with distinct keys are: nothing for `null` or a conforming value, and otherwise the value's own messages, `expected type null,
found …`, then the value's located errors — a violation inside the value never hides behind the null alternative. -/
theorem errors_optional {m : Meth} {ap : Bool} {cs : Constraints} {t : Ty} (hm : ErrsOk m cs t)
    (hacc : ∀ d, d.wf = true → (run m d).isOk = conforms ap false cs t d) (d : Py) (hd : d.json = true) (hwf : d.wf = true) :
    (run (.optional m) d).errs = violationsOpt ap cs t d := by
  rw [run, violationsOpt, ← hacc d hwf, ← hm.2 d hd]
  cases d.isNull with
  | true => rfl
  | false =>
    cases hr : run m d with
    | ok v => rfl
    | crash c => have := hm.1 d (jsonX_of_json.1 d hd); rw [hr] at this; cases this
    | invalid e =>
      rw [optionalTail_invalid, ← errs_badType .null hd]
      exact flatten_merge_msgs e _

/-- **C02, `Optional` of the index-keyed fragment**: for every type of the fragment of `errors_eq_violations` (primitives, lists, tuples, NewTypes,
annotations, any depth), every inherited constraint set without `uniqueItems`, every option record of `OptsOk` and every JSON datum with distinct keys, the errors `OptionalMethod` reports over the compiled
method are the specification's. -/
theorem C02_errors_optional (o : DOpts) (ho : OptsOk o) (cs : Constraints) (t : Ty) (ha : t.acc = true) (hn : t.nouq = true) (he : t.efrag = true)
    (hu : cs.unique = false) (d : Py) (hd : d.json = true) (hwf : d.wf = true) :
    (run (.optional (compile o cs t)) d).errs = violationsOpt o.additionalProperties cs t d :=
  errors_optional ((errors_eq_violations o ho).1 cs t ha hn he hu) ((accepts_iff_conforms o ho).1 cs t ha) d hd hwf

/-- non-vacuity: `Optional[int]` on a string, `Optional[List[int]]` on a list with an ill-typed element -/
example : (run (.optional .int) (.str "a")).errs = [([], .badType .int (some .str)), ([], .badType .null (some .str))] := by decide +kernel
example : violationsOpt false {} .int (.str "a") = [([], .badType .int (some .str)), ([], .badType .null (some .str))] := by decide +kernel
example : violationsOpt false {} (.list .int) (.list [.int 1, .str "a"])
    = [([], .badType .null (some .list)), ([.idx 1], .badType .int (some .str))] := by decide +kernel
example : violationsOpt false {} (.list .int) (.list [.int 1]) = [] := by decide +kernel

end Api
