import Apimodel.AcceptThm
/-!
# C03 (no crash): on JSON data a compiled method returns a value or a `ValidationError`, never another exception
-/
namespace Api

/-- never anything but a value or a `ValidationError`, on JSON data whose leaves may also be objects of no JSON class
    (`Py.jsonX`) -/
def NC (m : Meth) : Prop := ∀ d, d.jsonX = true → (run m d).isCrash = false

theorem nc_finish {own acc} {mk : List Val → Outcome Val} (ha : acc.crash = Option.none) (ho : own.isSome = true)
    (hmk : ∀ vs, (mk vs).isCrash = false) : (finish own acc mk).isCrash = false := by
  unfold finish
  rw [ha]
  cases own with
  | none => cases ho
  | some rs =>
    cases rs with
    | nil => simp only; split <;> first | exact hmk _ | rfl
    | cons r rs => rfl

theorem listErrors_isSome (c : Constraints) (xs : List Py) (hu : c.unique = false) : (c.listErrors xs).isSome = true := by
  unfold Constraints.listErrors; simp [hu]
theorem listErrors_some (c : Constraints) (xs : List Py) (hu : c.unique = false) : ∃ rs, c.listErrors xs = some rs :=
  Option.isSome_iff_exists.1 (listErrors_isSome c xs hu)

theorem nc_listSel {o : DOpts} {c : Constraints} {m : Meth} (hu : c.unique = false) (hm : NC m) : NC (listSel o c m) := by
  intro d hd
  have key (mk : List Val → Outcome Val) (hmk : ∀ vs, (mk vs).isCrash = false) :
      (onList d fun xs => finish (c.listErrors xs) (collect (fun x => run m x) 0 xs) mk).isCrash = false := by
    cases d <;> try rfl
    case list xs =>
      rw [Py.jsonX, jsonXL_iff] at hd
      exact nc_finish (collect_nocrash _ xs 0 fun x hx => hm x (hd x hx)) (listErrors_isSome c xs hu) hmk
  unfold listSel; split <;> (simp only [run]; exact key _ fun _ => rfl)

theorem nc_mapVal_tuple {r : Outcome Val} (h : r.isCrash = false) : (mapVal r listToTuple).isCrash = false := by
  fun_cases mapVal r listToTuple
  · next v => fun_cases listToTuple v <;> rfl
  · exact h

theorem runTuple_nocrash : ∀ (ms : List Meth) (xs : List Py) (i : Nat),
    (∀ m ∈ ms, NC m) → jsonXL xs = true → (runTuple ms i xs).crash = Option.none := by
  intro ms xs i h hx
  rw [runTuple_eq_loop, loopAcc_crash]
  exact fun mx hmx => h mx.1 (List.of_mem_zip hmx).1 mx.2 (jsonXL_iff.1 hx _ (List.of_mem_zip hmx).2)

theorem nc_tuple {dropErrors : Bool} {c : Constraints} {ms : List Meth} (hu : c.unique = false) (h : ∀ m ∈ ms, NC m) :
    NC (.tuple dropErrors c ms) := by
  intro d hd; simp only [run]
  cases d <;> try rfl
  case list xs =>
    rw [Py.jsonX] at hd
    simp only [onList, tupleBody]
    split
    · rfl
    · split
      · rfl
      · refine nc_finish ?_ (listErrors_isSome c xs hu) (fun _ => rfl)
        cases dropErrors <;> exact runTuple_nocrash _ xs 0 h hd

theorem collectItems_nocrash (kf : Bool) (fk fv : Py → Outcome Val) : ∀ (kvs : List (String × Py)),
    (∀ kv ∈ kvs, (fk (.str kv.1)).isCrash = false ∧ (fv kv.2).isCrash = false) →
    (collectItems kf fk fv kvs).crash = Option.none :=
  fun kvs => (collectItems_crash kf fk fv kvs).2

theorem nc_finishMap {own acc v} (ha : acc.crash = Option.none) : (finishMap own acc v).isCrash = false := by
  rw [finishMap_eq_finish]; exact nc_finish ha rfl fun _ => rfl

theorem nc_mappingSel {o : DOpts} {c : Constraints} {km vm : Meth} (hk : NC km) (hv : NC vm) : NC (mappingSel o c km vm) := by
  intro d hd
  have key : ∀ (kf : Bool) (v : List (String × Py) → Val), (onDict d (fun kvs => finishMap (c.dictErrors kvs.length)
      (collectItems kf (fun x => run km x) (fun x => run vm x) kvs) (v kvs))).isCrash = false := by
    intro kf v
    cases d <;> first | rfl | cases hd | skip
    case dict kvs =>
      rw [Py.jsonX, jsonXK_iff] at hd
      exact nc_finishMap (collectItems_nocrash kf _ _ kvs (fun kv hkv => ⟨hk _ rfl, hv _ (hd kv hkv)⟩))
  unfold mappingSel; split <;> (simp only [run]; exact key _ _)

theorem runFields_nocrash (u : Bool) : ∀ (fs : List (FieldInfo × Meth)) (kvs : List (String × Py)),
    (∀ p ∈ fs, NC p.2) → jsonXK kvs = true → (runFields u fs kvs).crash = Option.none
  | [], _, _, _ => by rw [runFields]
  | (f, m) :: fs, kvs, h, hj => by
    have ih := runFields_nocrash u fs kvs (fun p hp => h p (List.mem_cons_of_mem _ hp)) hj
    have hm := h (f, m) (List.mem_cons_self ..)
    rw [runFields]
    unfold stepField
    cases hl : lookupKey kvs f.alias with
    | none => simp only [Option.map_none]; split <;> exact ih
    | some x =>
      have hx := hm x (jsonXK_iff.1 hj _ (lookupKey_mem hl))
      simp only [Option.map_some]
      cases hr : run m x with
      | ok v => exact ih
      | invalid e => simp only; split <;> exact ih
      | crash c => rw [hr] at hx; cases hx

theorem nc_objSel {o : DOpts} {ci : ClassInfo} {c : Constraints} {fs : List (FieldInfo × Meth)}
    (h : ∀ p ∈ fs, NC p.2) : NC (objSel o ci c fs) := by
  intro d hd
  unfold objSel; dsimp only; split
  · simp only [run]
    fun_cases onDict d _
    · rw [Py.jsonX] at hd
      unfold finishSimple
      rw [runFields_nocrash false fs _ h hd]
      exact isCrash_ite ..
    · cases hd
    · rfl
  · simp only [run]
    fun_cases onDict d _
    · rw [Py.jsonX] at hd
      unfold finishObj
      rw [runFields_nocrash true fs _ h hd]
      exact isCrash_ite ..
    · cases hd
    · rfl

theorem nc_optional {m : Meth} (hm : NC m) : NC (.optional m) := by
  intro d hd
  simp only [run]; split
  · rfl
  · rw [isCrash_optionalTail]; exact hm d hd

theorem nc_literal (vs en) : NC (.literal vs en) := fun d _ => by simp only [run]; exact isCrash_runLiteral vs en d

theorem runUnion_nc : ∀ (ms : List Meth) (d : Py) (err : Option Err),
    (∀ m ∈ ms, (run m d).isCrash = false) → (ms ≠ [] ∨ err.isSome = true) → (runUnion ms d err).isCrash = false
  | [], d, err, _, hne => by
    rw [runUnion]; unfold unionEnd
    cases err with
    | none => rcases hne with h | h <;> simp at h
    | some e => rfl
  | m :: ms, d, err, h, _ => by
    rw [runUnion]
    have hm := h m (List.mem_cons_self ..)
    unfold unionStep
    cases hr : run m d with
    | ok v => rfl
    | crash c => rw [hr] at hm; cases hm
    | invalid e => exact runUnion_nc ms d _ (fun m' hm' => h m' (List.mem_cons_of_mem _ hm')) (Or.inr rfl)

theorem nc_union {ms : List Meth} (hne : ms ≠ []) (h : ∀ m ∈ ms, NC m) : NC (.union ms) := by
  intro d hd; simp only [run]
  exact runUnion_nc ms d Option.none (fun m hm => h m hm d hd) (Or.inl hne)

theorem runByType_nc : ∀ (rest all : List (JClass × Meth)) (c : JClass) (d : Py),
    (∀ p ∈ rest, (run p.2 d).isCrash = false) → (runByType rest all c d).isCrash = false
  | [], all, c, d, _ => by rw [runByType]; rfl
  | (c', m) :: rest, all, c, d, h => by
    rw [runByType]
    split
    · rw [isCrash_byTypeTail]; exact h (c', m) (List.mem_cons_self ..)
    · exact runByType_nc rest all c d (fun p hp => h p (List.mem_cons_of_mem _ hp))

theorem nc_unionByType {tbl : List (JClass × Meth)} (h : ∀ p ∈ tbl, NC p.2) : NC (.unionByType tbl) := by
  intro d hd; simp only [run]
  cases hc : d.jclass? with
  | none => rfl
  | some c => exact runByType_nc tbl tbl c d (fun p hp => h p hp d hd)

/-- `hfind` serves the branch that builds `OptionalMethod`: `next(...)` finds an alternative whose class is not
    `NoneType` (it raises `StopIteration` otherwise) -/
theorem nc_unionSel {clss : List (Option JClass)} {hasNone : Bool} {ms : List Meth} (hne : ms ≠ [])
    (hfind : ((clss.zip ms).find? (fun p => p.1 != some .null)).isSome = true)
    (h : ∀ m ∈ ms, NC m) : NC (unionSel clss hasNone ms) := by
  unfold unionSel
  simp only
  split
  · split
    · next p m hf =>
      have := List.mem_of_find?_eq_some hf
      exact nc_optional (h m (List.of_mem_zip this).2)
    · next hf => rw [hf] at hfind; cases hfind
  · split
    · exact nc_unionByType (fun p hp => h p.2 (List.of_mem_zip hp).2)
    · exact nc_union hne h

theorem isCrash_runFloat (c : Constraints) : ∀ d, d.jsonX = true → (runFloat false c d).isCrash = false := by
  intro d hd
  fun_cases runFloat false c d
  · exact isCrash_constrained _ _
  · next i =>
    rw [Py.jsonX] at hd
    unfold intAsFloat
    cases hi : intToFlt i with
    | none => rw [hi] at hd; cases hd
    | some f => exact isCrash_constrained _ _
  · contradiction
  all_goals rfl
theorem isCrash_runAny (c : Constraints) (hu : c.unique = false) (d : Py) : (runAny c d).isCrash = false := by
  cases d <;> first | exact isCrash_constrained _ _ | rfl | skip
  case list xs =>
    obtain ⟨rs, hl⟩ := listErrors_some c xs hu
    simp only [runAny, hl]; exact isCrash_constrained _ _

/-- The scope the no-crash and acceptance theorems share, as the induction they go by: `t` is in `Ty.accU` and carries no
    `uniqueItems`, and neither do the constraints `cs` it inherits (`ScopeU.of`). Each rule hands a theorem what its case
    needs, and threads `cs` the way `compile` does. -/
inductive ScopeU : Constraints → Ty → Prop
  | null {cs} : ScopeU cs .null
  | bool {cs} : ScopeU cs .bool
  | int {cs} : ScopeU cs .int
  | float {cs} : ScopeU cs .float
  | str {cs} : ScopeU cs .str
  | any {cs} : cs.unique = false → ScopeU cs .any
  | literal {cs vs} : ScopeU cs (.literal vs)
  | enum {cs c ms} : ScopeU cs (.enum c ms)
  | list {cs t} : cs.unique = false → ScopeU {} t → ScopeU cs (.list t)
  | vtuple {cs t} : cs.unique = false → ScopeU {} t → ScopeU cs (.vtuple t)
  | tuple {cs ts} : cs.unique = false → (∀ t ∈ ts, ScopeU {} t) → ScopeU cs (.tuple ts)
  | mapping {cs k v} : ScopeU {} k → ScopeU {} v → ScopeU cs (.mapping k v)
  | union {cs ts} : ts.all sideOk = true → ts.all Ty.isNull = false → (∀ t ∈ ts, ScopeU cs t) → ScopeU cs (.union ts)
  | newtype {cs n t} : ScopeU cs t → ScopeU cs (.newtype n t)
  | ann {cs c t} : ScopeU (c.merge cs) t → ScopeU cs (.ann c t)
  | obj {cs ci fs} : (aliasesOf fs).Nodup → (∀ ft ∈ fs, ft.1.fbod = false) → (∀ ft ∈ fs, ScopeU {} ft.2) →
      ScopeU cs (.obj ci fs)

theorem ScopeU.of : ∀ cs t, t.accU = true → t.nouq = true → cs.unique = false → ScopeU cs t := by
  apply Ty.induct_cs
  case null | bool | int | float | str | literal | enum => intros; constructor
  case any => intro cs _ _ hu; exact .any hu
  case list => intro cs t ih ha hn hu; simp only [Ty.accU] at ha; simp only [Ty.nouq] at hn; exact .list hu (ih ha hn rfl)
  case vtuple => intro cs t ih ha hn hu; simp only [Ty.accU] at ha; simp only [Ty.nouq] at hn; exact .vtuple hu (ih ha hn rfl)
  case set | frozenset => intro cs t _ ha; simp only [Ty.accU] at ha; cases ha
  case tuple =>
    intro cs ts ih ha hn hu; simp only [Ty.accU, accUL_iff] at ha; simp only [Ty.nouq, nouqL_iff] at hn
    exact .tuple hu fun t ht => ih t ht (ha t ht) (hn t ht) rfl
  case mapping =>
    intro cs k v ihk ihv ha hn _; simp only [Ty.accU, Bool.and_eq_true] at ha; simp only [Ty.nouq, Bool.and_eq_true] at hn
    exact .mapping (ihk ha.1 hn.1 rfl) (ihv ha.2 hn.2 rfl)
  case union =>
    intro cs ts ih ha hn hu; simp only [Ty.nouq, nouqL_iff] at hn
    obtain ⟨ha, hside, hnull⟩ := accU_union ha
    exact .union hside hnull fun t ht => ih t ht (ha t ht) (hn t ht) hu
  case newtype => intro cs n t ih ha hn hu; simp only [Ty.accU] at ha; simp only [Ty.nouq] at hn; exact .newtype (ih ha hn hu)
  case ann =>
    intro cs c t ih ha hn hu; simp only [Ty.accU] at ha; simp only [Ty.nouq, Bool.and_eq_true, Bool.not_eq_true'] at hn
    exact .ann (ih ha hn.2 (merge_unique hn.1 hu))
  case obj =>
    intro cs ci fs ih ha hn _; simp only [Ty.accU, Bool.and_eq_true, accUF_iff] at ha; simp only [Ty.nouq, nouqF_iff] at hn
    exact .obj (nodup_of_distinctStrs ha.1) (fun ft hft => (ha.2 ft hft).1) fun ft hft => ih ft hft (ha.2 ft hft).2 (hn ft hft) rfl

theorem nc_scope (o : DOpts) (ho : OptsOk o) {cs t} (h : ScopeU cs t) : NC (compile o cs t) := by
  induction h with
  | null => intro d _; simp only [compile, run]; exact isCrash_runNone d
  | bool => intro d _; simp only [compile, run]; exact isCrash_runBool d
  | int => intro d _; rw [run_compile_int]; exact isCrash_runInt _ d
  | float => intro d hd; rw [run_compile_float, ho.quirks]; exact isCrash_runFloat _ d hd
  | str => intro d _; rw [run_compile_str]; exact isCrash_runStr _ d
  | any hu => intro d _; simp only [compile, run]; exact isCrash_runAny _ hu d
  | literal | enum => simp only [compile]; exact nc_literal _ _
  | list hu _ ih => simp only [compile]; exact nc_listSel hu ih
  | vtuple hu _ ih => intro d hd; simp only [compile, run]; exact nc_mapVal_tuple (nc_listSel hu ih d hd)
  | tuple hu _ ih => simp only [compile, compileL_eq_map]; exact nc_tuple hu (List.forall_mem_map.2 ih)
  | mapping _ _ ihk ihv => simp only [compile]; exact nc_mappingSel ihk ihv
  | @union cs ts hside hnull _ ih =>
    simp only [compile, compileL_eq_map]
    refine nc_unionSel (fun he => (not_all_null hnull).1 (List.map_eq_nil_iff.1 he)) ?_ (List.forall_mem_map.2 ih)
    rw [← compileL_eq_map]; exact find_nonNull o cs ts hside hnull
  | newtype _ ih | ann _ ih => simp only [compile]; exact ih
  | obj _ _ _ ih => simp only [compile, compileF_eq_map]; exact nc_objSel (List.forall_mem_map.2 ih)

/-- **C03 (no crash).** For every type of the scope `Ty.accU` (unions of any shape at any depth) without
    `uniqueItems`, every inherited constraint set without it, every option record of `OptsOk` (the two repairs, no global
    `fall_back_on_default`), and every JSON datum
    (integers within the range of a double; tuples / bytes allowed as leaves), the compiled method returns a value or
    a `ValidationError`: whichever of `OptionalMethod`, `UnionByTypeMethod`, `UnionMethod` is selected. -/
theorem no_crashU (o : DOpts) (ho : OptsOk o) :
    (∀ cs t, t.accU = true → t.nouq = true → cs.unique = false → NC (compile o cs t)) ∧
    (∀ fs, accUF fs = true → nouqF fs = true → ∀ p ∈ compileF o fs, NC p.2) ∧
    (∀ cs ts, accUL ts = true → nouqL ts = true → cs.unique = false → ∀ m ∈ compileL o cs ts, NC m) := by
  refine ⟨fun cs t ha hn hu => nc_scope o ho (.of cs t ha hn hu), fun fs ha hn => ?_, fun cs ts ha hn hu => ?_⟩
  · rw [compileF_eq_map]
    exact List.forall_mem_map.2 fun ft hft => nc_scope o ho (.of {} ft.2 (accUF_iff.1 ha ft hft).2 (nouqF_iff.1 hn ft hft) rfl)
  · rw [compileL_eq_map]
    exact List.forall_mem_map.2 fun t ht => nc_scope o ho (.of cs t (accUL_iff.1 ha t ht) (nouqL_iff.1 hn t ht) hu)

/-- **C03 (no crash)** over `Ty.acc` (a union is only `Optional[T]`) -/
theorem no_crash (o : DOpts) (ho : OptsOk o) :
    (∀ cs t, t.acc = true → t.nouq = true → cs.unique = false → NC (compile o cs t)) ∧
    (∀ fs, accF fs = true → nouqF fs = true → ∀ p ∈ compileF o fs, NC p.2) ∧
    (∀ cs ts, accL ts = true → nouqL ts = true → cs.unique = false → ∀ m ∈ compileL o cs ts, NC m) :=
  ⟨fun cs t ha => (no_crashU o ho).1 cs t (acc_accU.1 t ha),
   fun fs ha => (no_crashU o ho).2.1 fs (acc_accU.2.1 fs ha),
   fun cs ts ha => (no_crashU o ho).2.2 cs ts (acc_accU.2.2.2 ts ha)⟩

theorem C03_no_crashU (o : DOpts) (ho : OptsOk o) (t : Ty) (ha : t.accU = true) (hn : t.nouq = true)
    (d : Py) (hd : d.jsonX = true) : (deserialize o {} t d).isCrash = false := by
  unfold deserialize
  simp only [(compile_noFailU o).1 {} t ha]
  exact (no_crashU o ho).1 {} t ha hn rfl d hd

theorem C03_no_crash (o : DOpts) (ho : OptsOk o) (t : Ty) (ha : t.acc = true) (hn : t.nouq = true)
    (d : Py) (hd : d.jsonX = true) : (deserialize o {} t d).isCrash = false :=
  C03_no_crashU o ho t (acc_accU.1 t ha) hn d hd

theorem C03_no_crash_json (o : DOpts) (ho : OptsOk o) (t : Ty) (ha : t.acc = true) (hn : t.nouq = true)
    (d : Py) (hd : d.json = true) : (deserialize o {} t d).isCrash = false :=
  C03_no_crash o ho t ha hn d (jsonX_of_json.1 d hd)

/-- non-vacuity of the extended domain: a tuple inside a list where integers are expected does not crash -/
example : (Py.list [.int 1, .other "tuple"]).jsonX = true ∧
    (deserialize { quirks := Quirks.repaired } {} (.list .int) (.list [.int 1, .other "tuple"])).isCrash = false := by decide +kernel

/-- outside the hypotheses the tree still crashes (row 8 of DESIGN section 6, recorded as known findings KF08a / KF08b):
    an integer beyond the doubles where `float` is expected, unhashable elements where a set is built.
    (A non-JSON object such as a tuple no longer crashes since the repair of row 6: `bad_type` is total.) -/
theorem C03_crash_counterexamples :
    (deserialize {} {} .float (.int (10 ^ 400))).isCrash = true
    ∧ (deserialize {} {} (.set (.list .int)) (.list [.list [.int 1]])).isCrash = true
    ∧ (deserialize {} {} .int (.other "tuple")).isCrash = false := by decide +kernel

end Api
