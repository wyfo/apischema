/-! Specialisation of generic classes (`apischema/typing.py`: `generic_mro`, `resolve_type_hints`).

A class of a single-inheritance hierarchy has its own parameters (`__parameters__`), the arguments it gives to its base (`__orig_bases__`) and the
fields it declares.  `resolveChain` lists what `resolve_type_hints(X[args])` collects (the dict it returns is `resolveHints`, below: a field declared again keeps its first position and takes its last type): walking up the hierarchy, the type arguments of each base are the
base arguments of the class below it under that class's substitution (its parameters zipped with its own arguments), and every class contributes its
declared fields under its substitution, base fields first.  Multiple inheritance and `Protocol` are outside the model. -/
namespace Api.Generics

inductive GTy where
  | var : String → GTy                 -- a type variable
  | con : String → GTy                 -- a closed type (`int`, `List[int]`, a class ...)
  | app : String → List GTy → GTy      -- `List[·]`, `Dict[str, ·]`, `Optional[·]`, `Tuple[·, ·]`
  deriving Repr, Inhabited

abbrev Subst := List (String × GTy)

def lookupS (σ : Subst) (v : String) : GTy :=
  match σ.find? (fun p => p.1 == v) with
  | some p => p.2
  | none => .var v                      -- `substitution.get(p, p)`

mutual
def subst (σ : Subst) : GTy → GTy
  | .var v => lookupS σ v
  | .con c => .con c
  | .app f as => .app f (substL σ as)
termination_by structural t => t
def substL (σ : Subst) : List GTy → List GTy
  | [] => []
  | t :: ts => subst σ t :: substL σ ts
termination_by structural ts => ts
end

mutual
def closed : GTy → Bool
  | .var _ => false
  | .con _ => true
  | .app _ as => closedL as
termination_by structural t => t
def closedL : List GTy → Bool
  | [] => true
  | t :: ts => closed t && closedL ts
termination_by structural ts => ts
end

mutual
/-- every variable of the term is one of `ps` -/
def within (ps : List String) : GTy → Bool
  | .var v => ps.contains v
  | .con _ => true
  | .app _ as => withinL ps as
termination_by structural t => t
def withinL (ps : List String) : List GTy → Bool
  | [] => true
  | t :: ts => within ps t && withinL ps ts
termination_by structural ts => ts
end

mutual
/-- Python spelling of a term (the driver's output, and what the counterexamples are stated on) -/
def render : GTy → String
  | .var v => v
  | .con c => c
  | .app f as => f ++ "[" ++ renderL as ++ "]"
termination_by structural t => t
def renderL : List GTy → String
  | [] => ""
  | t :: ts => render t ++ (if ts.isEmpty then "" else ", ") ++ renderL ts
termination_by structural ts => ts
end

def renderFields (fs : List (String × GTy)) : List (String × String) := fs.map (fun p => (p.1, render p.2))

structure GClass where
  name : String
  params : List String                  -- `__parameters__`, in the class's own order
  baseArgs : List GTy                   -- the arguments given to the base (over `params`)
  fields : List (String × GTy)          -- declared in this class (over `params`)
  deriving Repr, Inhabited

def substFields (σ : Subst) (fs : List (String × GTy)) : List (String × GTy) := fs.map (fun p => (p.1, subst σ p.2))

/-- the hierarchy from the specialised class up to the root; `args`: the type arguments of its head -/
def resolveChain : List GClass → List GTy → List (String × GTy)
  | [], _ => []
  | c :: rest, args =>
    resolveChain rest (substL (c.params.zip args) c.baseArgs) ++ substFields (c.params.zip args) c.fields

/-- well-formed class: base arguments and fields only use its parameters -/
def GClass.wf (c : GClass) : Bool := withinL c.params c.baseArgs && c.fields.all (fun p => within c.params p.2)

/-- well-formed chain: each class is well-formed and gives its base as many arguments as the base has parameters -/
def chainWf : List GClass → Bool
  | [] => true
  | [c] => c.wf
  | c :: d :: rest => c.wf && c.baseArgs.length == d.params.length && chainWf (d :: rest)

/-! the former computation: the parameters taken in their order of first appearance in the bases -/
mutual
def varsOf (acc : List String) : GTy → List String
  | .var v => if acc.contains v then acc else acc ++ [v]
  | .con _ => acc
  | .app _ as => varsOfL acc as
termination_by structural t => t
def varsOfL (acc : List String) : List GTy → List String
  | [] => acc
  | t :: ts => varsOfL (varsOf acc t) ts
termination_by structural ts => ts
end

/-- `_collect_type_parameters(origin.__orig_bases__)`: base arguments first, then an explicit `Generic[...]` (the class's own order) -/
def paramsByAppearance (c : GClass) : List String := varsOfL (varsOfL [] c.baseArgs) (c.params.map .var)

def resolveChainOld : List GClass → List GTy → List (String × GTy)
  | [], _ => []
  | c :: rest, args =>
    -- `_generic_mro` zipped the arguments with the order of appearance; `resolve_type_hints` (the fields) with `__parameters__`
    resolveChainOld rest (substL ((paramsByAppearance c).zip args) c.baseArgs) ++ substFields (c.params.zip args) c.fields

end Api.Generics

namespace Api.Generics

/-! ### fields re-annotated in a subclass

`resolve_type_hints` fills a dictionary while walking the hierarchy from the root down to the class: a name declared again in a subclass keeps the position of
its first declaration and takes the type of the *most derived* declaration. -/

/-- `hints[name] = tp` on an association list kept in insertion order -/
def setHint (hints : List (String × GTy)) (name : String) (tp : GTy) : List (String × GTy) :=
  if hints.any (fun p => p.1 == name) then hints.map (fun p => if p.1 == name then (p.1, tp) else p) else hints ++ [(name, tp)]

def hintsOf (fields : List (String × GTy)) : List (String × GTy) := fields.foldl (fun h p => setHint h p.1 p.2) []

/-- what `resolve_type_hints(X[args])` returns -/
def resolveHints (cs : List GClass) (args : List GTy) : List (String × GTy) := hintsOf (resolveChain cs args)

/-- the reading the seeded changes `C01-13` / `C13-14` produce: a name already resolved is skipped (the root's annotation wins) -/
def hintsOfFirstWins (fields : List (String × GTy)) : List (String × GTy) :=
  fields.foldl (fun h p => if h.any (fun q => q.1 == p.1) then h else h ++ [p]) []

end Api.Generics
