import Apimodel.Ser
import Apimodel.SchemaSer
import Apimodel.Generated.Omit
import Apimodel.BExprThm
/-! Source tie of the omission rules of object serialization (C04, and `required` of the serialization schema, C07).

`Generated/Omit.lean` holds, regenerated from the working tree on every run, the Boolean conditions of
`ComplexField.__post_init__` / `ComplexField.update_result` (serialization/methods.py), of the branch of
`SerializationMethodVisitor.object` that builds a `ComplexField` together with the flags it passes (serialization/__init__.py), and of
`ObjectField.skippable` (objects/fields.py), in their written structure.  Here the atoms are read by the quantities of the model (scope of
the model: no skip metadata, no `Undefined` in the type, no `none_as_undefined`, no fields-set tracking) and the composition
visitor flags -> `update_result` is proved equal to the model's `omitted` / `serFieldStep` / `skippable`. -/
namespace Api
open BExpr

/-- what the visitor knows about one field -/
structure FieldCtx where
  td : Bool            -- the class is a TypedDict
  required : Bool      -- `field.required`
  optional : Bool      -- `is_union_of(field.type, NoneType)`
  hasD : Bool          -- a default is declared (dataclass / NamedTuple field)
  dnull : Bool         -- ... and it is `None`

/-- `field_default = ... if field.required else field.get_default()`; every TypedDict key is declared with default `Undefined` -/
def FieldCtx.fdUndefined (c : FieldCtx) : Bool := c.td && !c.required
def FieldCtx.fdNone (c : FieldCtx) : Bool := !c.td && !c.required && c.dnull

/-- atoms of `ObjectField.skippable(default, none)`.  `default_factory is not None` reads as `!required`: `ObjectField.__post_init__`
    gives every non-required field a factory (`LazyValue(default)`, for a TypedDict key `LazyValue(Undefined)`) and a required one has
    none (the `required` metadata, which forces `required` on a field that declares a default, is outside the model) -/
def skTbl (en ed : Bool) (c : FieldCtx) : List (String × Bool) :=
  [("self.skip.serialization_if", false), ("is_union_of(self.type, UndefinedType)", false),
   ("self.default_factory is not None", !c.required), ("self.skip.serialization_default", false), ("default", ed),
   ("self.none_as_undefined", false), ("none", en), ("is_union_of(self.type, NoneType)", c.optional)]

/-- atoms of `SerializationMethodVisitor.object` (the ComplexField branch and its arguments) -/
def visitTbl (en ed : Bool) (c : FieldCtx) : List (String × Bool) :=
  [("is_union_of(field.type, UndefinedType)", false), ("field_default is Undefined", c.fdUndefined),
   ("is_union_of(field.type, NoneType)", c.optional), ("self.exclude_none", en), ("field.none_as_undefined", false),
   ("field_default is None", c.fdNone), ("self.exclude_defaults", ed), ("field.skip.serialization_default", false),
   ("field_default not in (None, Undefined)", !(c.fdNone || c.fdUndefined)),
   ("typed_dict", c.td), ("exclude_unset", false), ("field_alias is None", false), ("field.required", c.required),
   ("field.skippable(self.exclude_defaults, self.exclude_none)", evalT (skTbl en ed c) Generated.fieldSkippable)]

/-- the flags stored in the `ComplexField` -/
def flagsTbl (en ed : Bool) (c : FieldCtx) : List (String × Bool) :=
  [("self.skip_if", false),
   ("self.undefined", evalT (visitTbl en ed c) Generated.visitUndefined),
   ("self.skip_none", evalT (visitTbl en ed c) Generated.visitSkipNone),
   ("self.skip_default", evalT (visitTbl en ed c) Generated.visitSkipDefault)]

/-- atoms of the emission test of `ComplexField.update_result` for a value (`vnull`: it is None; `veq`: it equals the stored default) -/
def emitTbl (en ed : Bool) (c : FieldCtx) (vnull veq : Bool) : List (String × Bool) :=
  flagsTbl en ed c ++
  [("self.skippable", evalT (flagsTbl en ed c) Generated.omitSkippable), ("self.skip_if is not None", false), ("self.skip_if(value)", false),
   ("value is Undefined", false), ("value is None", vnull), ("value == self.default_value", veq)]

/-- atoms of the presence test of `ComplexField.update_result` -/
def presentTbl (en ed : Bool) (c : FieldCtx) (present : Bool) : List (String × Bool) :=
  [("self.typed_dict", evalT (visitTbl en ed c) Generated.visitTypedDict), ("self.required", evalT (visitTbl en ed c) Generated.visitRequired),
   ("self.name in obj", present), ("self.exclude_unset", evalT (visitTbl en ed c) Generated.visitExcludeUnset),
   ("self.name in getattr(obj, FIELDS_SET_ATTR)", true)]

def omittedB (en ed optional hasD dnull vnull veq : Bool) : Bool :=
  (((optional && en) || (dnull && ed)) && vnull) || ((ed && hasD && !dnull) && veq)

theorem omitted_eq_omittedB (o : SOpts) (f : SField) (v : Val) :
    omitted o f v = omittedB o.excludeNone o.excludeDefaults f.optional f.dflt.isSome (f.dflt == some (.lit .null)) (v matches .null)
      (match f.dflt with | some d => v.pyEq d.toPyVal | Option.none => false) := by
  rfl

/-- every atom of every extracted condition that a theorem below interprets is read by its table: nothing is evaluated by default
    (`Generated.serializedEmit` is extracted and not interpreted) -/
theorem omit_atoms_covered (en ed : Bool) (c : FieldCtx) (vnull veq present : Bool) :
    covered (skTbl en ed c) Generated.fieldSkippable = true ∧
    covered (visitTbl en ed c) Generated.visitComplex = true ∧ covered (visitTbl en ed c) Generated.visitUndefined = true ∧
    covered (visitTbl en ed c) Generated.visitSkipNone = true ∧ covered (visitTbl en ed c) Generated.visitSkipDefault = true ∧
    covered (visitTbl en ed c) Generated.visitTypedDict = true ∧ covered (visitTbl en ed c) Generated.visitRequired = true ∧
    covered (visitTbl en ed c) Generated.visitExcludeUnset = true ∧
    covered (flagsTbl en ed c) Generated.omitSkippable = true ∧
    covered (emitTbl en ed c vnull veq) Generated.omitEmit = true ∧
    covered (presentTbl en ed c present) Generated.omitPresent = true := by
  simp only [bexpr, String.reduceEq, skTbl, visitTbl, flagsTbl, emitTbl, presentTbl, Generated.fieldSkippable, Generated.visitComplex,
    Generated.visitUndefined, Generated.visitSkipNone, Generated.visitSkipDefault, Generated.visitTypedDict, Generated.visitRequired,
    Generated.visitExcludeUnset, Generated.omitSkippable, Generated.omitEmit, Generated.omitPresent]

/-- the strategies of the other branches write the key unconditionally -/
theorem other_strategies_always_write :
    Generated.visitOtherStrategies = ["IdentityField", "SimpleField"] ∧
    Generated.alwaysIdentityField = .atom "True" ∧ Generated.alwaysSimpleField = .atom "True" ∧
    Generated.visitFieldDefaultSrc = "... if field.required else field.get_default()" ∧
    Generated.visitTypedDictSrc = "is_typed_dict(cls)" := ⟨rfl, rfl, rfl, rfl, rfl⟩

/-- Hypotheses: a dataclass / NamedTuple field is required iff it declares no default (`object_field_from_field`: `required = field.default
is MISSING and field.default_factory is MISSING`; `named_tuple`: `name not in defaults`); a default `None` is a default; where the model
has no default (`...` of a required field, `Undefined` of a TypedDict key) no value equals it.  `!td && …`: a TypedDict key has no default
in the model. -/
theorem emit_core : ∀ (td req opt hasD dnull en ed vnull veq : Bool),
    (td = false → req = !hasD) → (dnull = true → hasD = true) → ((td || !hasD) = true → veq = false) →
    evalT (emitTbl en ed ⟨td, req, opt, hasD, dnull⟩ vnull veq) Generated.omitEmit
      = !(omittedB en ed opt (!td && hasD) (!td && dnull) vnull veq) := by
  simp only [bexpr, String.reduceEq, emitTbl, flagsTbl, visitTbl, Generated.omitEmit, Generated.omitSkippable,
    Generated.visitUndefined, Generated.visitSkipNone, Generated.visitSkipDefault]
  -- what is left is the written test over the Boolean variables
  decide +kernel

theorem present_core : ∀ (td req opt hasD dnull en ed present : Bool),
    evalT (presentTbl en ed ⟨td, req, opt, hasD, dnull⟩ present) Generated.omitPresent = !(td && !req && !present) := by
  simp only [bexpr, String.reduceEq, presentTbl, visitTbl, Generated.omitPresent, Generated.visitTypedDict, Generated.visitRequired,
    Generated.visitExcludeUnset]
  decide +kernel

theorem simple_core : ∀ (td req opt hasD dnull en ed vnull veq : Bool),
    (td = false → req = !hasD) → (dnull = true → hasD = true) →
    evalT (visitTbl en ed ⟨td, req, opt, hasD, dnull⟩) Generated.visitComplex = false →
    omittedB en ed opt (!td && hasD) (!td && dnull) vnull veq = false := by
  simp only [bexpr, String.reduceEq, visitTbl, skTbl, Generated.visitComplex, Generated.fieldSkippable]
  decide +kernel

theorem skippable_core : ∀ (req opt hasD en ed : Bool), (req = !hasD) →
    evalT (skTbl en ed ⟨false, req, opt, hasD, false⟩) Generated.fieldSkippable = ((hasD && ed) || (en && opt)) := by
  simp only [bexpr, String.reduceEq, skTbl, Generated.fieldSkippable]
  decide +kernel

def ctxOf (td : Bool) (f : FieldInfo) (opt : Bool) : FieldCtx :=
  ⟨td, f.required, opt, f.dflt.isSome, f.dflt == some (.lit .null)⟩

/-- the field record `serFieldStep` hands to `omitted` -/
def sfOf (td : Bool) (f : FieldInfo) (opt : Bool) : SField :=
  let sf : SField := { name := f.name, alias := f.alias, required := f.required, dflt := f.dflt, optional := opt }
  if td then { sf with dflt := Option.none } else sf

/-- `value == self.default_value` as the model reads it (`...` and `Undefined` equal no value of the model) -/
def veqOf (td : Bool) (f : FieldInfo) (opt : Bool) (v : Val) : Bool :=
  match (sfOf td f opt).dflt with | some d => v.pyEq d.toPyVal | Option.none => false

def serFieldStepSrc (o : SOpts) (td : Bool) (f : FieldInfo) (opt : Bool) (v? : Option Val)
    (ser : Val → Outcome Py) (rest : Outcome (List (String × Py))) : Outcome (List (String × Py)) :=
  let c := ctxOf td f opt
  match v? with
  | Option.none =>
      if evalT (presentTbl o.excludeNone o.excludeDefaults c false) Generated.omitPresent then .crash "AttributeError" else rest
  | some v =>
      if evalT (presentTbl o.excludeNone o.excludeDefaults c true) Generated.omitPresent &&
         evalT (emitTbl o.excludeNone o.excludeDefaults c (v matches .null) (veqOf td f opt v)) Generated.omitEmit
      then bindO (ser v) (fun j => bindO rest (fun js => .ok ((f.alias, j) :: js)))
      else rest

theorem dflt_null_isSome {d : Option Dflt} (h : (d == some (.lit .null)) = true) : d.isSome = true := by
  rw [eq_of_beq h]; rfl

/-- C04 (source tie): the emission test of `ComplexField.update_result`, under the flags that `SerializationMethodVisitor.object`
passes, is the negation of the model's `omitted` -/
theorem omit_matches_source (o : SOpts) (td : Bool) (f : FieldInfo) (opt : Bool) (v : Val)
    (hwf : td = false → f.required = !f.dflt.isSome) :
    evalT (emitTbl o.excludeNone o.excludeDefaults (ctxOf td f opt) (v matches .null) (veqOf td f opt v)) Generated.omitEmit
      = !(omitted o (sfOf td f opt) v) := by
  rw [omitted_eq_omittedB]
  cases td with
  | true =>
      exact emit_core true f.required opt f.dflt.isSome (f.dflt == some (.lit .null)) o.excludeNone o.excludeDefaults
        (v matches .null) (veqOf true f opt v) (by simp) dflt_null_isSome (by intro _; rfl)
  | false =>
      refine emit_core false f.required opt f.dflt.isSome (f.dflt == some (.lit .null)) o.excludeNone o.excludeDefaults
        _ (veqOf false f opt v) (by intro _; exact hwf rfl) dflt_null_isSome ?_
      intro h
      cases hd : f.dflt with
      | none => simp [veqOf, sfOf, hd]
      | some d => simp [hd] at h

/-- C04 (source tie): the model's step of object serialization is the step written with the conditions of the source -/
theorem serFieldStep_matches_source (o : SOpts) (td : Bool) (f : FieldInfo) (opt : Bool) (v? : Option Val)
    (ser : Val → Outcome Py) (rest : Outcome (List (String × Py))) (hwf : td = false → f.required = !f.dflt.isSome) :
    serFieldStep o td f opt v? ser rest = serFieldStepSrc o td f opt v? ser rest := by
  have hp (present : Bool) : evalT (presentTbl o.excludeNone o.excludeDefaults (ctxOf td f opt) present) Generated.omitPresent
      = !(td && !f.required && !present) :=
    present_core td f.required opt f.dflt.isSome (f.dflt == some (.lit .null)) o.excludeNone o.excludeDefaults present
  cases v? with
  | none =>
      unfold serFieldStepSrc serFieldStep
      simp only [hp]
      cases td <;> cases f.required <;> simp
  | some v =>
      have he := omit_matches_source o td f opt v hwf
      unfold serFieldStepSrc
      simp only [hp, he, Bool.not_true, Bool.and_false, Bool.not_false, Bool.true_and]
      unfold serFieldStep sfOf
      cases td <;> cases h : omitted o _ v <;> simp_all

/-- C04 (source tie): a field for which the visitor does not build a `ComplexField` is written unconditionally, as in the model -/
theorem simple_field_matches_source (o : SOpts) (td : Bool) (f : FieldInfo) (opt : Bool) (v : Val)
    (hwf : td = false → f.required = !f.dflt.isSome)
    (h : evalT (visitTbl o.excludeNone o.excludeDefaults (ctxOf td f opt)) Generated.visitComplex = false) :
    omitted o (sfOf td f opt) v = false := by
  rw [omitted_eq_omittedB]
  have := simple_core td f.required opt f.dflt.isSome (f.dflt == some (.lit .null)) o.excludeNone o.excludeDefaults
    (v matches .null) (veqOf td f opt v) hwf dflt_null_isSome h
  cases td <;> simpa [sfOf, veqOf] using this

/-- C07 (source tie): `ObjectField.skippable` as written is the `skippable` of the serialization-schema model -/
theorem skippable_matches_source (so : SOpts) (f : FieldInfo) (t : Ty) (hwf : f.required = !f.dflt.isSome) :
    evalT (skTbl so.excludeNone so.excludeDefaults (ctxOf false f t.isOptionalUnion)) Generated.fieldSkippable = skippable so f t := by
  have := skippable_core f.required t.isOptionalUnion f.dflt.isSome so.excludeNone so.excludeDefaults hwf
  simp only [ctxOf, skippable]
  -- (the table does not read `dnull`)
  have h2 : skTbl so.excludeNone so.excludeDefaults ⟨false, f.required, t.isOptionalUnion, f.dflt.isSome, f.dflt == some (.lit .null)⟩
      = skTbl so.excludeNone so.excludeDefaults ⟨false, f.required, t.isOptionalUnion, f.dflt.isSome, false⟩ := rfl
  rw [h2, this]

end Api
