import Apimodel.Generated.RawDc
/-! C08 (`override_dataclass_constructors` never changes a result): the constructor override builds an instance field by field, bypassing `__init__`; it is
sound only for a dataclass whose construction *is* the assignment of its fields.  `is_raw_dataclass` of the working tree is the conjunction of ten
conditions: `is_dataclass`, and nine that each exclude one way in which construction is more than that: a metaclass, slots anywhere in the hierarchy (row 88), `__post_init__`
(inherited or not: the seeded change `C08-13` tested the class's own namespace), a hand-written `__init__` (row 88), `init=False` fields, descriptors in the
place of fields (row 88), `__new__`, `__setattr__`, a constructor signature that is not the list of fields.  The model has no `__init__` to bypass - an
object value is its fields - so this list is the hypothesis under which `C08`'s statements about the override speak about the code. -/
namespace Api

theorem raw_dataclass_conditions :
    Generated.rawdc_conjuncts = [
      "dataclasses.is_dataclass(cls)",
      "type(cls) is type",
      "not any(('__slots__' in vars(base) for base in cls.__mro__[:-1]))",
      "not hasattr(cls, '__post_init__')",
      "getattr(cls, dataclasses._PARAMS).init",
      "all((f.init for f in dataclasses.fields(cls)))",
      "not any((hasattr(type(inspect.getattr_static(cls, f.name, None)), '__set__') for f in dataclasses.fields(cls)))",
      "cls.__new__ is object.__new__",
      "cls.__setattr__ is object.__setattr__ or getattr(cls, dataclasses._PARAMS).frozen",
      "list(inspect.signature(cls.__init__, follow_wrapped=False).parameters) == ['__dataclass_self__' if 'self' in dataclasses.fields(cls) else 'self'] + [f.name for f in dataclasses.fields(cls)]"] := rfl

end Api
