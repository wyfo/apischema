import Apimodel.Order
import Apimodel.Generated.OrderSrc
/-! Source tie of `sort_by_order` (C16): the classification chain and the body of `add_to_result`, regenerated from the working tree,
interpreted statement by statement, are the model's `rootValue` / `anchor` buckets and `Forest.walk`. -/
namespace Api

/-- where the classification loop files an element -/
inductive Bucket where
  | group (v : Int) | after (s : String) | before (s : String) | raises
  deriving DecidableEq, Repr

/-- the tests of the chain, read on the model's ordering (`order(...)` accepts exactly one of a value / `after` / `before`) -/
def ordTest (o : Ordering') : String → Option Bool
  | "ordering is None" => some (o == .none)
  | "ordering.order is not None" => some (match o with | .value _ => true | _ => false)
  | "ordering.after is not None" => some (match o with | .after _ => true | _ => false)
  | "ordering.before is not None" => some (match o with | .before _ => true | _ => false)
  | "else" => some true
  | _ => Option.none

def ordAct (o : Ordering') : String → Option Bucket
  | "groups[0].append(elt)" => some (.group 0)
  | "groups[ordering.order].append(elt)" => (match o with | .value n => some (.group n) | _ => Option.none)
  | "after[get_field_name(ordering.after, methods=True)].append(elt)" => (match o with | .after s => some (.after s) | _ => Option.none)
  | "before[get_field_name(ordering.before, methods=True)].append(elt)" => (match o with | .before s => some (.before s) | _ => Option.none)
  | "raise NotImplementedError" => some .raises
  | _ => Option.none

def classifySrc (o : Ordering') : List (String × String) → Option Bucket
  | [] => Option.none
  | (t, a) :: rest =>
      match ordTest o t with
      | some true => ordAct o a
      | some false => classifySrc o rest
      | Option.none => Option.none

/-- the model's reading: `rootValue` for the groups, `anchor` + `isAfter` / `isBefore` for the relative ones -/
def bucketOf (e : Elt) : Bucket :=
  match e.ord with
  | .none => .group 0 | .value n => .group n | .after s => .after s | .before s => .before s

theorem classifySrc_cons (o : Ordering') (t a : String) (rest : List (String × String)) :
    classifySrc o ((t, a) :: rest) = (ordTest o t).bind fun b => if b then ordAct o a else classifySrc o rest := by
  rw [classifySrc]
  cases ordTest o t with
  | none => rfl
  | some b => cases b <;> rfl

/-- C16 (source tie): the chain files every element where the model does -/
theorem classify_matches_source (e : Elt) : classifySrc e.ord Generated.ord_chain = some (bucketOf e) := by
  obtain ⟨name, ord⟩ := e
  simp only [Generated.ord_chain, classifySrc_cons]
  -- Per kind of ordering, the tests down to the one that holds and the statements down to the one taken are read by the equations of
  -- `ordTest` / `ordAct` at their literals (unfolding the two evaluates `String.decEq` on every literal of the chain); the equation of a
  -- test on another constructor asks that the ordering is not of that constructor.
  cases ord with
  | none => rw [ordTest, ordAct]; rfl
  | value n => rw [ordTest, ordTest, ordAct, ordAct]; rfl
  | after s =>
      rw [ordTest, ordTest, ordTest, ordAct, ordAct, ordAct]
      · rfl
      all_goals nofun
  | before s =>
      rw [ordTest, ordTest, ordTest, ordTest, ordAct, ordAct, ordAct, ordAct]
      · rfl
      all_goals nofun

theorem bucket_root (e : Elt) : (∃ v, bucketOf e = .group v ∧ e.rootValue = some v) ∨ (e.rootValue = Option.none ∧ ∃ s, e.anchor = some s) := by
  cases e with
  | mk name ord => cases ord <;> simp [bucketOf, Elt.rootValue, Elt.anchor]

theorem bucket_after (es : List Elt) (x e : Elt) : x ∈ afters es e ↔ x ∈ es ∧ bucketOf x = .after e.name := by
  cases x with
  | mk name ord => cases ord <;> simp [afters, isAfter, bucketOf, List.mem_filter]

theorem bucket_before (es : List Elt) (x e : Elt) : x ∈ befores es e ↔ x ∈ es ∧ bucketOf x = .before e.name := by
  cases x with
  | mk name ord => cases ord <;> simp [befores, isBefore, bucketOf, List.mem_filter]

/-- one statement of `add_to_result` on an element, given the recursive call -/
def walkStmt (pre post : Elt → List Elt) (rec_ : Elt → List Elt) (e : Elt) : String → Option (List Elt)
  | "elt_name = name(elt)" => some []
  | "for before_elt in before[elt_name]:\n    add_to_result(before_elt)" => some ((pre e).flatMap rec_)
  | "result.append(elt)" => some [e]
  | "for after_elt in after[elt_name]:\n    add_to_result(after_elt)" => some ((post e).flatMap rec_)
  | _ => Option.none

def walkBody (pre post : Elt → List Elt) (rec_ : Elt → List Elt) (e : Elt) : List String → Option (List Elt)
  | [] => some []
  | s :: rest => match walkStmt pre post rec_ e s, walkBody pre post rec_ e rest with
      | some a, some b => some (a ++ b)
      | _, _ => Option.none

theorem walkBody_cons (pre post : Elt → List Elt) (r : Elt → List Elt) (e : Elt) (s : String) (rest : List String) :
    walkBody pre post r e (s :: rest) = (walkStmt pre post r e s).bind fun a => (walkBody pre post r e rest).map (a ++ ·) := by
  rw [walkBody]; cases walkStmt pre post r e s <;> cases walkBody pre post r e rest <;> rfl

/-- `add_to_result` with the body read from the source (fuel as in the model) -/
def walkSrc (body : List String) (pre post : Elt → List Elt) : Nat → Elt → Option (List Elt)
  | 0, _ => some []
  | k+1, e => walkBody pre post (fun x => (walkSrc body pre post k x).getD []) e body

/-- C16 (source tie): the body of `add_to_result` as written is the model's walk (elements placed before, the element, elements placed after) -/
theorem walk_matches_source (pre post : Elt → List Elt) : ∀ (k : Nat) (e : Elt),
    walkSrc Generated.ord_walk pre post k e = some (Forest.walk pre post k e)
  | 0, _ => rfl
  | k+1, e => by
    have ih : (fun x => (walkSrc Generated.ord_walk pre post k x).getD []) = Forest.walk pre post k := by
      funext x; rw [walk_matches_source pre post k x]; rfl
    unfold walkSrc
    rw [ih]
    -- `walkStmt` by its equations at the four literals (`simp [walkBody, walkStmt]` evaluates the string matches in the elaborator)
    simp only [Generated.ord_walk, walkBody_cons, walkBody.eq_1]
    rw [walkStmt, walkStmt, walkStmt, walkStmt]
    simp [Forest.walk]

/-- the parts of `sort_by_order` the model takes as given, compared as text -/
theorem order_definitions_pinned :
    Generated.ord_effective = "ordering = order_overriding.get(name(elt), order(elt))" ∧
    Generated.ord_containers = ["groups: Dict[int, List[T]] = defaultdict(list)", "after: Dict[str, List[T]] = defaultdict(list)", "before: Dict[str, List[T]] = defaultdict(list)"] ∧
    Generated.ord_fastPath = "not after and (not before) and (len(groups) == 1) => return next(iter(groups.values()))" ∧
    Generated.ord_final = "for value in sorted(groups):\n    for elt in groups[value]:\n        add_to_result(elt) ; return result" :=
  ⟨rfl, rfl, rfl, rfl⟩

end Api
