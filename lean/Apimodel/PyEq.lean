import Apimodel.Types
import Apimodel.Num
/-! # Python equality / hashability on data and values -/
namespace Api

/-- the number a Python scalar compares equal to (`True == 1 == 1.0`) -/
def Py.asNum? : Py → Option Num
  | .bool b => some (.int (if b then 1 else 0))
  | .int i => some (.int i)
  | .float f => some (.flt f)
  | _ => none

def Lit.asNum? : Lit → Option Num
  | .bool b => some (.int (if b then 1 else 0))
  | .int i => some (.int i)
  | .float f => some (.flt f)
  | _ => none

/-- `data == literal` for a hashable scalar datum (dict lookup in `LiteralMethod`) -/
def litMatches (d : Py) (l : Lit) : Bool :=
  match d, l with
  | .null, .null => true
  | .str a, .str b => a == b
  | d, l =>
    match d.asNum?, l.asNum? with
    | some a, some b => a.eq b
    | _, _ => false

/-- is the datum hashable? (`value_map[data]` raises `TypeError` otherwise) -/
def Py.hashable : Py → Bool
  | .list _ | .dict _ | .dictNS _ => false
  | .other _ => true          -- tuples / bytes / plain objects; unhashable ones are not generated
  | _ => true

/-- the image of a literal value as a typed value -/
def Lit.toVal : Lit → Val
  | .null => .null | .bool b => .bool b | .int i => .int i | .float f => .float f | .str s => .str s

def Lit.jclass : Lit → JClass
  | .null => .null | .bool _ => .bool | .int _ => .int | .float _ => .float | .str _ => .str

mutual
/-- the datum itself as a value (what check-only methods and `Any` return) -/
def asVal : Py → Val
  | .null => .null | .bool b => .bool b | .int i => .int i | .float f => .float f | .str s => .str s
  | .list xs => .list (asValL xs)
  | .dict kvs => .dict (asValK kvs)
  | .dictNS kvs => .dict (asValKK kvs)
  | .other c => .other c
termination_by structural d => d
def asValL : List Py → List Val
  | [] => []
  | x :: xs => asVal x :: asValL xs
termination_by structural xs => xs
def asValK : List (String × Py) → List (Val × Val)
  | [] => []
  | (k, v) :: kvs => (.str k, asVal v) :: asValK kvs
termination_by structural kvs => kvs
def asValKK : List (Py × Py) → List (Val × Val)
  | [] => []
  | (k, v) :: kvs => (asVal k, asVal v) :: asValKK kvs
termination_by structural kvs => kvs
end

def Val.asNum? : Val → Option Num
  | .bool b => some (.int (if b then 1 else 0))
  | .int i => some (.int i)
  | .float f => some (.flt f)
  | _ => none

mutual
/-- Python `==` on the deserialized values it is applied to (elements of sets, field defaults); two dicts, or a tuple and a named tuple, are not covered (`false`) -/
def Val.pyEq : Val → Val → Bool
  | .null, .null => true
  | .str a, .str b => a == b
  | .list a, .list b => pyEqL a b
  | .tuple a, .tuple b => pyEqL a b
  | .enumMember c m, .enumMember c' m' => c == c' && m == m'
  | .obj c fs, .obj c' fs' => c == c' && pyEqF fs fs'
  | .ntuple _ fs, .ntuple _ fs' => pyEqF fs fs'
  | .frozenset a, .frozenset b => subsetL a b && a.length == b.length
  | .set a, .set b => subsetL a b && a.length == b.length
  | .frozenset a, .set b => subsetL a b && a.length == b.length
  | .set a, .frozenset b => subsetL a b && a.length == b.length
  | a, b =>
    match a.asNum?, b.asNum? with
    | some x, some y => x.eq y
    | _, _ => false
termination_by structural a => a
def pyEqL : List Val → List Val → Bool
  | [], [] => true
  | a :: as, b :: bs => a.pyEq b && pyEqL as bs
  | _, _ => false
termination_by structural as => as
/-- every element of the first (duplicate-free) list equals some element of the second -/
def subsetL : List Val → List Val → Bool
  | [], _ => true
  | a :: as, bs => bs.any (fun b => a.pyEq b) && subsetL as bs
termination_by structural as => as
def pyEqF : List (String × Val) → List (String × Val) → Bool
  | [], [] => true
  | (k, a) :: as, (k', b) :: bs => k == k' && a.pyEq b && pyEqF as bs
  | _, _ => false
termination_by structural as => as
end

-- can the value be put in a `set` (`TypeError: unhashable type` otherwise)
mutual
def Val.hashable : Val → Bool
  | .list _ | .set _ | .dict _ | .obj _ _ => false
  | .tuple xs => hashableL xs
  | .ntuple _ fs => hashableF fs
  | _ => true
termination_by structural v => v
def hashableL : List Val → Bool
  | [] => true
  | x :: xs => x.hashable && hashableL xs
termination_by structural xs => xs
def hashableF : List (String × Val) → Bool
  | [] => true
  | (_, x) :: xs => x.hashable && hashableF xs
termination_by structural xs => xs
end

/-- `set.add` -/
def setAdd (v : Val) (s : List Val) : List Val := if s.any (fun w => w.pyEq v) then s else s ++ [v]

end Api
