import Apimodel.Generated.Coerce
import Apimodel.CoerceThm
namespace Api

theorem badTypeP_int_float (f : Flt) : badTypeP .int (.float f) = .invalid (.ofMsgs [.badType .int (some .float)]) := rfl

/-- **translation tie for C14**: the if / elif chain of `coerce(cls, data)` as read from apischema/deserialization/coercion.py
    (`CoerceSrc`) means the hand-written `coerce`, for every conversion environment, expected class and datum -/
theorem coerce_matches_source (env : CoerceEnv) (c : JClass) (d : Py) :
    interpChain Generated.coerceChain env c d = coerce env c d := by
  -- the class settles every guard but `isinstance(data, cls)` (and, for `float`, `isinstance(data, bool)`): what is left is the branch taken for that class
  cases c <;> simp [interpChain, Generated.coerceChain, CGuard.holds] <;> cases d
  case null.str s => simp only [CAction.exec, coerce, List.contains_cons, List.contains_nil, Bool.or_false]
  case int.float f => cases f <;> rfl
  case int.str s => dsimp only [CAction.exec, pyCall, coerce]; cases assoc? s env.intOf <;> rfl
  case float.int i => dsimp only [CAction.exec, pyCall, coerce]; cases intToFlt i <;> rfl
  case float.str s => dsimp only [CAction.exec, pyCall, coerce]; cases assoc? s env.floatOf <;> rfl
  -- for every other kind of datum the branch and the model unfold to the same term
  all_goals rfl

/-- hence the table property `C14_coerce_table`, stated on the model, holds of the source's chain -/
theorem C14_source_table (env : CoerceEnv) (c : JClass) (d d' : Py)
    (h : interpChain Generated.coerceChain env c d = .ok d') : d' = d ∨ inCoerceTable env c d = true := by
  rw [coerce_matches_source] at h
  exact C14_coerce_table env c d d' h

end Api
