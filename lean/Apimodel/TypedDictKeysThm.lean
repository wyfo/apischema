import Apimodel.Deser
/-! The result of a TypedDict is a well-formed dictionary (C01: "the typed image of d"; row 76): the additional keys copied under
`additional_properties` never collide with a declared field nor with each other, so every key of the result appears once. -/
namespace Api

theorem extraVals_keys (names aliases : List String) (kvs : List (String × Py)) :
    (extraVals names aliases kvs).map (·.1)
      = (unexpectedKeys aliases kvs).filter fun k => !names.contains k && (lookupKey kvs k).isSome := by
  unfold extraVals
  induction unexpectedKeys aliases kvs with
  | nil => rfl
  | cons k ks ih =>
    rw [List.filterMap_cons, List.filter_cons]
    cases names.contains k <;> cases lookupKey kvs k <;> simp [-List.contains_eq_mem, ih]

theorem typedDict_result_keys_nodup (names aliases : List String) (kvs : List (String × Py)) (vals : List (String × Val))
    (hv : (vals.map (·.1)).Nodup) (hn : ∀ p ∈ vals, p.1 ∈ names) (hk : (kvs.map (·.1)).Nodup) :
    ((vals ++ extraVals names aliases kvs).map (·.1)).Nodup := by
  have hu : (unexpectedKeys aliases kvs).Nodup := (List.filter_sublist.map _).nodup hk
  rw [List.map_append, extraVals_keys, List.nodup_append]
  refine ⟨hv, hu.filter _, fun a ha b hb hab => ?_⟩
  obtain ⟨p, hp, rfl⟩ := List.mem_map.1 ha
  have := (List.mem_filter.1 hb).2
  simp only [Bool.and_eq_true, Bool.not_eq_true', List.contains_eq_mem, decide_eq_false_iff_not] at this
  exact this.1 (hab ▸ hn p hp)

/-- the defect of row 76, replayed: without the test on the field names the key `b` appears twice (the Python dict then keeps the later, untyped value) -/
example : ((([("b", Val.null)] : List (String × Val)) ++ extraVals [] ["B_al"] [("B_al", Py.null), ("b", Py.int 1)]).map (·.1)) = ["b", "b"] ∧
    ((([("b", Val.null)] : List (String × Val)) ++ extraVals ["b"] ["B_al"] [("B_al", Py.null), ("b", Py.int 1)]).map (·.1)) = ["b"] := by decide

end Api
