import Apimodel.ListLemmas
import Apimodel.Generics
import Apimodel.Generated.GenericsSrc
/-! Theorems on the specialisation of generic classes (C01 / C04 / C06: the fields of `X[args]` are those of the plain class obtained by substitution). -/
namespace Api.Generics

theorem substL_eq_map (σ : Subst) : ∀ ts, substL σ ts = ts.map (subst σ) :=
  eq_map_of_cons (by rw [substL]) fun _ _ => by rw [substL]

theorem closedL_iff {ts : List GTy} : closedL ts = true ↔ ∀ t ∈ ts, closed t = true :=
  forall_mem_iff_of_cons (by rw [closedL]) fun _ _ => by rw [closedL, Bool.and_eq_true]

theorem find_key {σ : Subst} {v : String} (hv : (σ.map (·.1)).contains v = true) :
    ∃ p, σ.find? (fun p => p.1 == v) = some p := by
  obtain ⟨p, hp, rfl⟩ := List.mem_map.1 (List.contains_iff_mem.1 hv)
  exact Option.isSome_iff_exists.1 (List.find?_isSome.2 ⟨p, hp, beq_self_eq_true _⟩)

theorem subst_closed (σ : Subst) (hσ : ∀ p ∈ σ, closed p.2 = true) :
    (∀ t, within (σ.map (·.1)) t = true → closed (subst σ t) = true) ∧
    (∀ ts, withinL (σ.map (·.1)) ts = true → closedL (substL σ ts) = true) := by
  apply subst.mutual_induct (motive_1 := fun t => within (σ.map (·.1)) t = true → closed (subst σ t) = true)
    (motive_2 := fun ts => withinL (σ.map (·.1)) ts = true → closedL (substL σ ts) = true)
  · intro v h
    obtain ⟨p, hp⟩ := find_key (by rw [within] at h; exact h)
    rw [subst, lookupS, hp]; exact hσ p (List.mem_of_find?_eq_some hp)
  · intro c _; rw [subst, closed]
  · intro f as ih h; rw [subst, closed]; rw [within] at h; exact ih h
  · intro _; rw [substL, closedL]
  · intro t ts ih1 ih2 h
    rw [withinL, Bool.and_eq_true] at h
    rw [substL, closedL, ih1 h.1, ih2 h.2]; rfl

theorem substL_length (σ : Subst) (ts : List GTy) : (substL σ ts).length = ts.length := by
  rw [substL_eq_map, List.length_map]

theorem chainWf_cons {c : GClass} {rest : List GClass} (h : chainWf (c :: rest) = true) :
    c.wf = true ∧ chainWf rest = true ∧ ∀ d, rest.head? = some d → c.baseArgs.length = d.params.length := by
  cases rest with
  | nil => exact ⟨h, rfl, fun _ hd => by cases hd⟩
  | cons d rest =>
    simp only [chainWf, Bool.and_eq_true, beq_iff_eq] at h
    exact ⟨h.1.1, h.2, fun _ hd => by cases hd; exact h.1.2⟩

theorem wf_covered {c : GClass} {args : List GTy} (hw : c.wf = true) (hl : c.params.length = args.length) :
    withinL ((c.params.zip args).map (·.1)) c.baseArgs = true ∧
    ∀ p ∈ c.fields, within ((c.params.zip args).map (·.1)) p.2 = true := by
  rw [List.map_fst_zip (Nat.le_of_eq hl)]
  rw [GClass.wf, Bool.and_eq_true, List.all_eq_true] at hw
  exact hw

/-- No type variable leaks: every field of a specialisation with closed arguments has a closed type. -/
theorem resolve_closed : ∀ (cs : List GClass) (args : List GTy), chainWf cs = true → closedL args = true →
    (∀ c, cs.head? = some c → c.params.length = args.length) → ∀ f ∈ resolveChain cs args, closed f.2 = true
  | [], _, _, _, _ => fun f hf => by cases hf
  | c :: rest, args, hwf, hc, hl => by
    obtain ⟨hw, hrest, hbl⟩ := chainWf_cons hwf
    obtain ⟨hb, hf⟩ := wf_covered hw (hl c rfl)
    have hS := subst_closed (c.params.zip args) (fun _ hp => closedL_iff.1 hc _ (List.of_mem_zip hp).2)
    intro f hfm
    rw [resolveChain, List.mem_append] at hfm
    rcases hfm with hfm | hfm
    · exact resolve_closed rest _ hrest (hS.2 _ hb) (fun d hd => by rw [substL_length]; exact (hbl d hd).symm) f hfm
    · obtain ⟨p, hp, rfl⟩ := List.mem_map.1 hfm
      exact hS.1 p.2 (hf p hp)

/-- The plain twin: own fields under (parameters ↦ arguments), after the base resolved with the substituted base arguments. -/
theorem resolve_spec_fields (c : GClass) (rest : List GClass) (args : List GTy) :
    resolveChain (c :: rest) args =
      resolveChain rest (substL (c.params.zip args) c.baseArgs) ++ c.fields.map (fun p => (p.1, subst (c.params.zip args) p.2)) := rfl

theorem substFields_names (σ : Subst) (fs : List (String × GTy)) : (substFields σ fs).map (·.1) = fs.map (·.1) :=
  List.map_map

theorem resolveChain_names : ∀ (cs : List GClass) (args : List GTy),
    (resolveChain cs args).map (·.1) = cs.reverse.flatMap (·.fields.map (·.1))
  | [], _ => rfl
  | c :: rest, args => by
    rw [resolveChain, List.map_append, substFields_names, resolveChain_names rest, List.reverse_cons, List.flatMap_append,
      List.flatMap_singleton]

theorem resolve_names : ∀ (cs : List GClass) (args args' : List GTy),
    (resolveChain cs args).map (·.1) = (resolveChain cs args').map (·.1) :=
  fun cs args args' => (resolveChain_names cs args).trans (resolveChain_names cs args').symm

/-! ### the defect of row 75, replayed -/
def clsA : GClass := { name := "A", params := ["T", "U"], baseArgs := [], fields := [("a", .var "T"), ("b", .var "U")] }
/-- `class B(A[U, T], Generic[T, U]): c: T` -/
def clsB : GClass := { name := "B", params := ["T", "U"], baseArgs := [.var "U", .var "T"], fields := [("c", .var "T")] }

theorem chain_wf : chainWf [clsB, clsA] = true := by decide +kernel

/-- `B[int, str]`: `a: str, b: int, c: int` (the fields of `A[str, int]`); the order of first appearance (`U`, `T`) gave `a: int, b: str`. -/
theorem appearance_order_counterexample :
    renderFields (resolveChain [clsB, clsA] [.con "int", .con "str"]) = [("a", "str"), ("b", "int"), ("c", "int")] ∧
    paramsByAppearance clsB = ["U", "T"] ∧
    renderFields (resolveChainOld [clsB, clsA] [.con "int", .con "str"]) = [("a", "int"), ("b", "str"), ("c", "int")] := by
  decide +kernel

/-- when the order of appearance is the class's own order (no reordering `Generic[...]`), both computations agree -/
theorem old_eq_of_same_order : ∀ (cs : List GClass) (args : List GTy), (∀ c ∈ cs, paramsByAppearance c = c.params) →
    resolveChainOld cs args = resolveChain cs args
  | [], _, _ => rfl
  | c :: rest, args, h => by
    rw [resolveChainOld, resolveChain, h c (List.mem_cons_self ..)]
    rw [old_eq_of_same_order rest _ (fun d hd => h d (List.mem_cons_of_mem _ hd))]

/-- Source tie: both substitutions of the working tree - the one that specialises the bases (`_generic_mro`) and the one that specialises the fields
(`resolve_type_hints`) - zip the type arguments with the class's own `__parameters__`, as `resolveChain` does; the order of first appearance in the
bases is only the fallback for objects that have no `__parameters__`. -/
theorem substitutions_use_own_parameters :
    Generated.gen_mroZips = [["parameters", "get_args(tp)"]] ∧ Generated.gen_mroParamsDef = "getattr(origin, '__parameters__', None)" ∧
    Generated.gen_mroParamsAssignments = 2 ∧ Generated.gen_mroFallbackGuard = "parameters is None" ∧
    Generated.gen_hintsZips = [["getattr(base_origin, '__parameters__', ())", "get_args(base)"]] :=
  ⟨rfl, rfl, rfl, rfl, rfl⟩

end Api.Generics
