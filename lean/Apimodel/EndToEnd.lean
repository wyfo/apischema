import Apimodel.AcceptThm
import Apimodel.SchemaThm
/-! # C06 end to end on the model: `deserialize` accepts ⇔ the generated schema validates -/
namespace Api

/-- **C06.** For every type in both scopes, every option record of `OptsOk` (the two repairs, no global `fall_back_on_default`), every JSON datum
    with distinct keys and no integer-valued float: the compiled method returns a value iff the datum
    validates against `deserialization_schema(T)` under 2020-12 semantics. -/
theorem C06_deserialize_iff_schema (o : DOpts) (ho : OptsOk o) (t : Ty) (ht : t.acc = true) (hs : t.sch = true)
    (d : Py) (hw : d.wf = true) (hd : d.sane = true) :
    (deserialize o {} t d).isOk = validates (buildD o.additionalProperties t) d := by
  rw [C01_accept o ho {} t ht d hw, C06_schema_iff_conforms _ t hs d hd]

def exTy2 : Ty :=
  .obj { name := "A" }
    [({ name := "xs", alias := "xs", required := true }, .list (.ann { min := some (.int 0) } .int)),
     ({ name := "m", alias := "mm", required := false, dflt := some .emptyDict },
        .mapping .str (.tuple [.str, .literal [.str "a", .str "b"]]))]

example : exTy2.acc = true ∧ exTy2.sch = true := by decide +kernel
example : (Py.dict [("xs", .list [.int 1]), ("mm", .dict [("k", .list [.str "z", .str "a"])])]).sane = true := by
  decide +kernel
example : validates (buildD false exTy2)
    (.dict [("xs", .list [.int 1]), ("mm", .dict [("k", .list [.str "z", .str "a"])])]) = true := by decide +kernel
example : validates (buildD false exTy2)
    (.dict [("xs", .list [.int (-1)]), ("mm", .dict [("k", .list [.str "z", .str "a"])])]) = false := by decide +kernel

def exTy3 : Ty :=
  .obj { name := "B" }
    [({ name := "o", alias := "o", required := false, dflt := some (.lit .null) }, .union [.list .int, .null]),
     ({ name := "p", alias := "p", required := true }, .union [.obj { name := "Q" } [({ name := "z", alias := "z", required := true }, .str)], .null])]

example : exTy3.acc = true ∧ exTy3.sch = true := by decide +kernel
example : validates (buildD false exTy3) (.dict [("p", .null)]) = true
    ∧ validates (buildD false exTy3) (.dict [("o", .list [.int 1]), ("p", .dict [("z", .str "s")])]) = true
    ∧ validates (buildD false exTy3) (.dict [("o", .str "x"), ("p", .null)]) = false := by decide +kernel

end Api
