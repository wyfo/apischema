import Apimodel.AcceptThm
import Apimodel.NoCopyThm
import Apimodel.SerLemmas
/-!
# C05: deserialize ∘ serialize = id on typed values (index-keyed fragment)
-/
namespace Api

mutual
/-- `v` is a value of type `T` (fragment: primitives, lists, both tuple kinds, NewTypes) -/
def HasType : Ty → Val → Bool
  | .null, v => match v with | .null => true | _ => false
  | .bool, v => match v with | .bool _ => true | _ => false
  | .int, v => match v with | .int _ => true | _ => false
  | .float, v => match v with | .float _ => true | _ => false
  | .str, v => match v with | .str _ => true | _ => false
  | .list t, v => onListVal v (fun xs => xs.all (fun x => HasType t x))
  | .vtuple t, v => onTupleVal v (fun xs => xs.all (fun x => HasType t x))
  | .tuple ts, v => onTupleVal v (fun xs => hasTypeZip ts xs)
  | .newtype _ t, v => HasType t v
  | _, _ => false
termination_by structural t => t
def hasTypeZip : List Ty → List Val → Bool
  | [], [] => true
  | t :: ts, x :: xs => HasType t x && hasTypeZip ts xs
  | _, _ => false
termination_by structural ts => ts
end

def RT (so : SOpts) (m : Meth) (t : Ty) (v : Val) : Prop :=
  ∃ j, ser so t v = .ok j ∧ run m j = .ok v

theorem hasTypeZip_iff : ∀ {ts vs}, hasTypeZip ts vs = true ↔ All2 (fun t v => HasType t v = true) ts vs
  | [], [] => ⟨fun _ => .nil, fun _ => rfl⟩
  | [], _ :: _ => ⟨nofun, nofun⟩
  | _ :: _, [] => ⟨nofun, nofun⟩
  | t :: ts, v :: vs => by rw [hasTypeZip, Bool.and_eq_true, hasTypeZip_iff, All2.cons_iff]

theorem run_list_ok {m : Meth} {js : List Py} {vs : List Val} (h : All2 (fun j v => run m j = .ok v) js vs) :
    run (.list {} m) (.list js) = .ok (.list vs) := by
  rw [run]
  simp only [onList, listErrors_empty, collect_ok _ js vs 0 h, finish]
  rfl

theorem run_tuple_ok {ms : List Meth} {js : List Py} {vs : List Val} (hlen : ms.length = js.length)
    (h : All2 (fun (mj : Meth × Py) v => run mj.1 mj.2 = .ok v) (ms.zip js) vs) :
    run (.tuple false {} ms) (.list js) = .ok (.tuple vs) := by
  rw [run]
  simp only [onList, tupleBody, hlen, Nat.lt_irrefl, if_false, gt_iff_lt, listErrors_empty, runTuple_ok _ js vs 0 h hlen,
    finish, Bool.false_eq_true]
  rfl

theorem hasNum_empty : ({} : Constraints).hasNum = false := rfl
theorem hasStr_empty : ({} : Constraints).hasStr = false := rfl

/-! The proofs go through the copying methods: with `no_copy = false` the selection does not look at the element method
(`listSel_copy`) and the method builds its value from the values of the elements; `run_compile_copy` carries a result to
any `no_copy`. -/
theorem listSel_copy {o : DOpts} (hnc : o.noCopy = false) (c m) : listSel o c m = .list c m := by
  unfold listSel; simp [hnc]
theorem compile_tuple_rep {o : DOpts} (ho : OptsOk o) (cs ts) : compile o cs (.tuple ts) = .tuple false cs (compileL o {} ts) := by
  rw [compile, ho.quirks]; rfl

section
variable {so : SOpts} {o : DOpts}

theorem RT_newtype {cs n t v} (h : RT so (compile o cs t) t v) : RT so (compile o cs (.newtype n t)) (.newtype n t) v :=
  let ⟨j, hj, hr⟩ := h
  ⟨j, by rw [ser]; exact hj, by rw [compile]; exact hr⟩

theorem RT_list {m : Meth} {t : Ty} {vs : List Val} (h : ∀ v ∈ vs, RT so m t v) :
    RT so (.list {} m) (.list t) (.list vs) :=
  let ⟨js, hjs, hall⟩ := mapMO_ok (f := fun x => ser so t x) (g := fun j => run m j) vs h
  ⟨.list js, by rw [ser]; exact serColl_ok rfl hjs, run_list_ok hall⟩

/-- a variadic tuple is serialized like the list of its items, and read back as that list, then made a tuple -/
theorem RT_vtuple {m : Meth} {t : Ty} {vs : List Val} (h : RT so m (.list t) (.list vs)) :
    RT so (.vtuple m) (.vtuple t) (.tuple vs) :=
  let ⟨j, hj, hr⟩ := h
  ⟨j, by rw [ser]; rw [ser] at hj; exact hj, by rw [run, hr]; rfl⟩

def RTZip (so : SOpts) (ms : List Meth) (ts : List Ty) (vs : List Val) : Prop :=
  ∃ js, serTuple so ts vs = .ok js ∧ ms.length = js.length ∧
    All2 (fun (mj : Meth × Py) v => run mj.1 mj.2 = .ok v) (ms.zip js) vs

/-- `H`: `HasType` here, `HasTypeO` in `RoundTripObjThm` -/
theorem RTZip.of_all2 {g : Ty → Meth} {H : Ty → Val → Prop} {ts vs} (h : All2 H ts vs)
    (ih : ∀ t ∈ ts, ∀ v, H t v → RT so (g t) t v) : RTZip so (ts.map g) ts vs := by
  induction h with
  | nil => exact ⟨[], by rw [serTuple], rfl, .nil⟩
  | cons h _ ihs =>
    obtain ⟨j, hj, hr⟩ := ih _ (List.mem_cons_self ..) _ h
    obtain ⟨js, hjs, hlen, hall⟩ := ihs fun t ht => ih t (List.mem_cons_of_mem _ ht)
    exact ⟨j :: js, serTuple_cons_ok hj hjs, congrArg (· + 1) hlen, .cons hr hall⟩

theorem RT_tuple {ms : List Meth} {ts : List Ty} {vs : List Val} (h : RTZip so ms ts vs) :
    RT so (.tuple false {} ms) (.tuple ts) (.tuple vs) :=
  let ⟨js, hjs, hlen, hall⟩ := h
  ⟨.list js, ser_tuple_ok hjs, run_tuple_ok hlen hall⟩
end

theorem roundtrip_ty {o : DOpts} (ho : OptsOk o) (hnc : o.noCopy = false) (so : SOpts) (t : Ty) :
    ∀ v, HasType t v = true → RT so (compile o {} t) t v := by
  apply Ty.induct_cs (P := fun _ t => ∀ v, HasType t v = true → RT so (compile o {} t) t v) (cs := {})
  case null | bool | int | float | str =>
    intro _ v hv; unfold HasType at hv; split at hv
    · exact ⟨_, rfl, rfl⟩
    · cases hv
  case list =>
    intro _ t ih v hv
    simp only [HasType, onListVal_iff] at hv
    obtain ⟨vs, rfl, h⟩ := hv
    simp only [compile]; rw [listSel_copy hnc]
    exact RT_list fun x hx => ih x (List.all_eq_true.1 h x hx)
  case vtuple =>
    intro _ t ih v hv
    simp only [HasType, onTupleVal_iff] at hv
    obtain ⟨vs, rfl, h⟩ := hv
    simp only [compile]; rw [listSel_copy hnc]
    exact RT_vtuple (RT_list fun x hx => ih x (List.all_eq_true.1 h x hx))
  case tuple =>
    intro _ ts ih v hv
    simp only [HasType, onTupleVal_iff] at hv
    obtain ⟨vs, rfl, h⟩ := hv
    rw [compile_tuple_rep ho, compileL_eq_map]
    exact RT_tuple (.of_all2 (hasTypeZip_iff.1 h) ih)
  case newtype => intro _ n t ih v hv; simp only [HasType] at hv; exact RT_newtype (ih v hv)
  -- no other type has a typed value
  all_goals intros; rename_i hv; cases hv

/-- **C05, index-keyed fragment, copying methods.** -/
theorem roundtrip_nocopy_off (o : DOpts) (ho : OptsOk o) (hnc : o.noCopy = false) (so : SOpts) :
    (∀ cs t, cs = {} → ∀ v, HasType t v = true → RT so (compile o cs t) t v) ∧
    (∀ (fs : List (FieldInfo × Ty)), True) ∧
    (∀ cs ts, cs = {} → ∀ vs, hasTypeZip ts vs = true →
        ∃ js, serTuple so ts vs = .ok js ∧ (compileL o cs ts).length = js.length ∧
          All2 (fun (mj : Meth × Py) v => run mj.1 mj.2 = .ok v) ((compileL o cs ts).zip js) vs) := by
  refine ⟨fun cs t hc => hc ▸ roundtrip_ty ho hnc so t, fun _ => trivial, fun cs ts hc vs h => ?_⟩
  rw [hc, compileL_eq_map]
  exact RTZip.of_all2 (hasTypeZip_iff.1 h) fun t _ => roundtrip_ty ho hnc so t

/-- **C05, index-keyed fragment.** For every typed value of a type of the fragment within `Ty.scope`, every serialization option
    record, every deserialization option record of `OptsOk` — `no_copy` on or off, by
    `run_compile_copy` — serializing and deserializing gives the value back. -/
theorem C05_roundtrip_partial (o : DOpts) (ho : OptsOk o) (so : SOpts) (t : Ty) (hs : t.scope = true)
    (v : Val) (hv : HasType t v = true) :
    ∃ j, ser so t v = .ok j ∧ run (compile o {} t) j = .ok v := by
  obtain ⟨j, hj, hr⟩ := roundtrip_ty (o := { o with noCopy := false }) ⟨ho.fbod, ho.quirks⟩ rfl so t v hv
  exact ⟨j, hj, (run_compile_copy o {} t hs j).trans hr⟩

example : HasType (.list (.tuple [.int, .vtuple .str])) (.list [.tuple [.int 1, .tuple [.str "a", .str "b"]]]) = true := by
  decide +kernel

end Api
