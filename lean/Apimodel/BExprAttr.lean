import Lean.Meta.Tactic.Simp.RegisterCommand
/-- evaluation of a generated condition (`BExpr.evalT`, `BExpr.covered`) over a table whose keys are string literals (see `BExprThm`) -/
register_simp_attr bexpr
