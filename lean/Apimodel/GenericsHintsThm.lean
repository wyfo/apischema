import Apimodel.GenericsThm
import Apimodel.Generated.GenericsSrc
/-! `resolve_type_hints` with fields declared again in subclasses (C01): every name once (`hints_names_nodup`); that it keeps the position of its first declaration and takes the type of its most
derived one is stated for one step (`lookup_setHint`) and shown on the example below. -/
namespace Api.Generics

theorem replaced_name (n : String) (t : GTy) (p : String × GTy) : (if p.1 == n then (p.1, t) else p).1 = p.1 := by
  split <;> rfl

theorem setHint_nodup (h : List (String × GTy)) (n : String) (t : GTy) (hn : (h.map (·.1)).Nodup) : ((setHint h n t).map (·.1)).Nodup := by
  unfold setHint
  split
  · have : ∀ p ∈ h, ((·.1) ∘ fun p : String × GTy => if p.1 == n then (p.1, t) else p) p = p.1 := fun p _ => replaced_name n t p
    rw [List.map_map, List.map_congr_left this]
    exact hn
  · next hc =>
    rw [List.map_append]
    refine List.nodup_append.2 ⟨hn, List.pairwise_singleton _ _, fun a ha b hb hab => hc ?_⟩
    obtain ⟨p, hp, rfl⟩ := List.mem_map.1 ha
    exact List.any_eq_true.2 ⟨p, hp, beq_iff_eq.2 (hab.trans (List.mem_singleton.1 hb))⟩

theorem hints_names_nodup (cs : List GClass) (args : List GTy) : ((resolveHints cs args).map (·.1)).Nodup :=
  List.foldlRecOn (motive := fun h => (h.map (·.1)).Nodup) (resolveChain cs args) _ List.nodup_nil
    fun h hn p _ => setHint_nodup h p.1 p.2 hn

theorem lookup_setHint (h : List (String × GTy)) (n : String) (t : GTy) :
    ((setHint h n t).find? (fun p => p.1 == n)).map (·.2) = some t := by
  unfold setHint
  split
  · next hc =>
    -- the search stops at the same entry as before, and that entry is the replaced one
    obtain ⟨q, hq⟩ := Option.isSome_iff_exists.1 (List.find?_isSome.2 (List.any_eq_true.1 hc))
    have hf : ((fun p : String × GTy => p.1 == n) ∘ fun p => if p.1 == n then (p.1, t) else p) = fun p => p.1 == n :=
      funext fun p => congrArg (· == n) (replaced_name n t p)
    rw [List.find?_map, hf, hq, Option.map_some, Option.map_some, if_pos (List.find?_some hq)]
  · next hc =>
    have : h.find? (fun p => p.1 == n) = none :=
      List.find?_eq_none.2 fun x hx hxn => hc (List.any_eq_true.2 ⟨x, hx, hxn⟩)
    rw [List.find?_append, this, Option.none_or, List.find?_cons_of_pos (by exact beq_self_eq_true n)]; rfl

/-- `class RS(RB): id: str` over `class RB: id: int; name: str`: `id` first, typed `str`; the first-wins reading keeps `int` -/
example :
    let rb : GClass := { name := "RB", params := [], baseArgs := [], fields := [("id", .con "int"), ("name", .con "str")] }
    let rs : GClass := { name := "RS", params := [], baseArgs := [], fields := [("id", .con "str"), ("extra", .con "int")] }
    renderFields (resolveHints [rs, rb] []) = [("id", "str"), ("name", "str"), ("extra", "int")] ∧
    renderFields (hintsOfFirstWins (resolveChain [rs, rb] [])) = [("id", "int"), ("name", "str"), ("extra", "int")] := by decide +kernel

/-- Source tie: the walk goes from the root to the class (`reversed(generic_mro(obj))`), keeps the names annotated in the class itself and assigns them
unconditionally. -/
theorem hints_walk_source :
    Generated.gen_hintsLoop = "for base in reversed(generic_mro(obj))" ∧ Generated.gen_hintsSkip = "if name not in base_annotations: continue" ∧
    Generated.gen_hintsAssignTargets = ["hints[name]", "hints[name]", "hints[name]"] :=
  ⟨rfl, rfl, rfl⟩

end Api.Generics
