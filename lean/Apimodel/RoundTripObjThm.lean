import Apimodel.RoundTripThm
/-!
# C05 for dataclasses: deserialize ∘ serialize = id on typed values, objects included

Dataclasses with distinct field names and distinct aliases, nested in any way with lists / tuples / NewTypes (`Ty.rtO`),
under the default serialization options (`exclude_none = exclude_defaults = False`: no field is omitted).
-/
namespace Api

mutual
/-- `v` is a value of type `T` (fragment: primitives, lists, both tuple kinds, NewTypes, dataclasses); an instance lists
    exactly the declared fields, in declaration order, which is how `construct` builds it -/
def HasTypeO : Ty → Val → Bool
  | .null, v => match v with | .null => true | _ => false
  | .bool, v => match v with | .bool _ => true | _ => false
  | .int, v => match v with | .int _ => true | _ => false
  | .float, v => match v with | .float _ => true | _ => false
  | .str, v => match v with | .str _ => true | _ => false
  | .list t, v => onListVal v (fun xs => xs.all (fun x => HasTypeO t x))
  | .vtuple t, v => onTupleVal v (fun xs => xs.all (fun x => HasTypeO t x))
  | .tuple ts, v => onTupleVal v (fun xs => hasTypeZipO ts xs)
  | .newtype _ t, v => HasTypeO t v
  | .obj ci fs, v => match v with
      | .obj n fvs => n == ci.name && fvs.map (·.1) == namesT fs && hasTypeFO fs fvs
      | _ => false
  | _, _ => false
termination_by structural t => t
def hasTypeZipO : List Ty → List Val → Bool
  | [], [] => true
  | t :: ts, x :: xs => HasTypeO t x && hasTypeZipO ts xs
  | _, _ => false
termination_by structural ts => ts
def hasTypeFO : List (FieldInfo × Ty) → List (String × Val) → Bool
  | [], _ => true
  | (f, t) :: fs, fvs =>
      (match fvs.find? (fun kv => kv.1 == f.name) with
       | some kv => HasTypeO t kv.2
       | Option.none => false) && hasTypeFO fs fvs
termination_by structural fs => fs
end

def valsFO (fs : List (FieldInfo × Ty)) (fvs : List (String × Val)) : List (String × Val) :=
  fs.filterMap (fun ft => (fvs.find? (fun kv => kv.1 == ft.1.name)).map (fun kv => (ft.1.name, kv.2)))

/-- Stated for any dict `kvs` that holds the items of `js`: the induction (`fieldsRT`) is over a suffix of the fields, while
    the loop of deserialization looks each alias up in the whole dict. -/
def FieldsRT (o : DOpts) (so : SOpts) (fs : List (FieldInfo × Ty)) (n : String) (fvs : List (String × Val)) : Prop :=
  ∃ js : List (String × Py), serFields so false fs (.obj n fvs) = .ok js ∧ js.map (·.1) = aliasesOf fs ∧
    ∀ kvs, (∀ p ∈ js, lookupKey kvs p.1 = some p.2) →
      runFields true (compileF o fs) kvs = { vals := valsFO fs fvs, errs := [], count := fs.length, crash := Option.none }

theorem hasTypeZipO_iff : ∀ {ts vs}, hasTypeZipO ts vs = true ↔ All2 (fun t v => HasTypeO t v = true) ts vs
  | [], [] => ⟨fun _ => .nil, fun _ => rfl⟩
  | [], _ :: _ => ⟨nofun, nofun⟩
  | _ :: _, [] => ⟨nofun, nofun⟩
  | t :: ts, v :: vs => by rw [hasTypeZipO, Bool.and_eq_true, hasTypeZipO_iff, All2.cons_iff]

theorem omitted_default (so : SOpts) (h1 : so.excludeNone = false) (h2 : so.excludeDefaults = false) (sf : SField) (v : Val) :
    omitted so sf v = false := by
  unfold omitted; simp [h1, h2]

theorem find?_key_of_mem {α : Type} {l : List (String × α)} (hn : (l.map (·.1)).Nodup) (p) (hp : p ∈ l) :
    l.find? (fun kv => kv.1 == p.1) = some p := by
  have := find?_filterMap_key (·.1) some (fun _ _ h => congrArg (·.1) (Option.some.inj h).symm) l hn p hp
  rwa [List.filterMap_some] at this

theorem lookupKey_of_mem_nodup {js : List (String × Py)} (hn : (js.map (·.1)).Nodup) (p) (hp : p ∈ js) :
    lookupKey js p.1 = some p.2 := by
  unfold lookupKey; rw [find?_key_of_mem hn p hp]; rfl

theorem find_in_tail {α} {n n1 : String} {x1 : α} {rest : List (String × α)} (h : n ≠ n1) :
    ((n1, x1) :: rest).find? (fun kv => kv.1 == n) = rest.find? (fun kv => kv.1 == n) := by
  simp [Ne.symm h]

/-- a list with the keys of `fvs`, in the same order, each element sent to the item of `fvs` under its key, rebuilds `fvs`: how both
    the field loop (`valsFO`) and `construct` (`pickField`) get back the fields of an instance -/
theorem filterMap_by_key {γ : Type} {key : γ → String} {g : γ → Option (String × Val)} {l : List γ} {fvs : List (String × Val)}
    (hn : (fvs.map (·.1)).Nodup) (hl : l.map key = fvs.map (·.1))
    (hg : ∀ c (p : String × Val), p.1 = key c → fvs.find? (fun kv => kv.1 == key c) = some p → g c = some p) :
    l.filterMap g = fvs := by
  have h : l.filterMap g = (l.map key).filterMap fun n => fvs.find? (fun kv => kv.1 == n) := by
    rw [List.filterMap_map]
    refine filterMap_congr' fun c hc => ?_
    obtain ⟨p, hp, hp1⟩ := List.mem_map.1 (show key c ∈ fvs.map (·.1) from hl ▸ List.mem_map_of_mem hc)
    have hf := find?_key_of_mem hn p hp
    rw [hp1] at hf
    rw [Function.comp, hf]; exact hg c p hp1 hf
  rw [h, hl, List.filterMap_map]
  exact (filterMap_congr' fun p hp => find?_key_of_mem hn p hp).trans List.filterMap_some

theorem depMissing_nil_present {infos : List FieldInfo} {kvs : List (String × Py)}
    (h : ∀ f ∈ infos, (lookupKey kvs f.alias).isSome = true) : depMissing infos kvs = [] := by
  rw [← List.isEmpty_iff, depMissing_isEmpty, depOk, List.all_eq_true]
  intro f hf
  obtain ⟨x, hx⟩ := Option.isSome_iff_exists.1 (h f hf); simp [depViolated, hx]

theorem infosM_compileF (o : DOpts) (ho : o.fallBackOnDefault = false) (fs) : infosM (compileF o fs) = infosOf fs := by
  rw [compileF_eq_map' ho, infosM_map]

theorem aliasesM_compileF (o : DOpts) (ho : o.fallBackOnDefault = false) : ∀ fs, aliasesM (compileF o fs) = aliasesOf fs :=
  fun fs => by rw [compileF_eq_map' ho, aliasesM_map]

theorem construct_rebuild {ci : ClassInfo} (hk : ci.kind = .dataclass) {fs : List (FieldInfo × Ty)} {fvs : List (String × Val)}
    (hn : (namesT fs).Nodup) (hnames : fvs.map (·.1) = namesT fs) :
    construct ci (infosOf fs) fvs = .obj ci.name fvs := by
  unfold construct; rw [hk]
  simp only
  rw [filterMap_by_key (key := (·.name)) (hnames ▸ hn) (by rw [hnames, namesT_eq_map, infosOf, List.map_map]; rfl)
    fun f p _ hf => by rw [pickField, hf]]

section
variable {o : DOpts} {so : SOpts}

theorem fieldsRT (ho : OptsOk o) (hso1 : so.excludeNone = false) (hso2 : so.excludeDefaults = false) (n fvs) :
    ∀ (fs : List (FieldInfo × Ty)), (∀ ft ∈ fs, ∀ v, HasTypeO ft.2 v = true → RT so (compile o {} ft.2) ft.2 v) →
    hasTypeFO fs fvs = true → FieldsRT o so fs n fvs
  | [], _, _ => ⟨[], by rw [serFields], by rw [aliasesOf]; rfl, fun kvs _ => by rw [compileF, runFields_nil]; rfl⟩
  | (f, t) :: fs, ih, hv => by
    rw [hasTypeFO, Bool.and_eq_true] at hv
    obtain ⟨hv1, hv2⟩ := hv
    cases hfind : fvs.find? (fun kv => kv.1 == f.name) with
    | none => rw [hfind] at hv1; cases hv1
    | some kv =>
      rw [hfind] at hv1
      obtain ⟨j, hj, hr⟩ := ih (f, t) (List.mem_cons_self ..) kv.2 hv1
      obtain ⟨js, hser, hkeys, hrun⟩ := fieldsRT ho hso1 hso2 n fvs fs (fun ft h => ih ft (List.mem_cons_of_mem _ h)) hv2
      refine ⟨(f.alias, j) :: js, ?_, ?_, ?_⟩
      · rw [serFields_cons (x := kv.2) (by rw [Val.field?, hfind]; rfl), omitted_default so hso1 hso2, hj, hser]; rfl
      · rw [List.map_cons, aliasesOf, hkeys]
      · intro kvs hl
        have h1 := hl (f.alias, j) (List.mem_cons_self ..)
        rw [compileF, runFields_cons, withFbod_id ho.fbod, h1,
          hrun kvs (fun p hp => hl p (List.mem_cons_of_mem _ hp))]
        simp only [Option.map_some, hr, stepField]
        unfold valsFO
        rw [List.filterMap_cons, hfind]
        simp [List.length_cons]

/-- the field loop has met every key of the datum and recorded no error, no field is missing for a present one, no constraint
    of the object applies: the instance is built from the collected values -/
theorem finishObj_clean {ci infos ap aliases vals kvs} (hdep : depMissing infos kvs = []) :
    finishObj ci infos [] ap aliases { vals := vals, errs := [], count := kvs.length, crash := Option.none } kvs
      = .ok (construct ci infos vals) := by
  unfold finishObj
  simp only [hdep, bne_self_eq_false, Bool.false_and, Bool.false_eq_true, if_false, addDepMissing, List.foldl_nil,
    List.isEmpty_nil, Bool.true_and, if_true]

theorem run_objSel_ok (ho : OptsOk o) {ci : ClassInfo} (hkind : ci.kind = .dataclass) {fs : List (FieldInfo × Ty)}
    (hnd : (namesT fs).Nodup) {fvs : List (String × Val)} (hnames : fvs.map (·.1) = namesT fs)
    {js : List (String × Py)} (hkeys : js.map (·.1) = aliasesOf fs)
    (hrun : runFields true (compileF o fs) js
      = { vals := valsFO fs fvs, errs := [], count := fs.length, crash := Option.none }) :
    run (objSel o ci {} (compileF o fs)) (.dict js) = .ok (.obj ci.name fvs) := by
  have hlen : fs.length = js.length := by
    simpa [aliasesOf_eq_map] using (congrArg List.length hkeys).symm
  have hdep : depMissing (infosM (compileF o fs)) js = [] := by
    apply depMissing_nil_present
    rw [infosM_compileF o ho.fbod]
    refine List.forall_mem_map.2 fun ft hft => ?_
    rw [lookupKey_isSome, keysOf, hkeys, aliasesOf_eq_map]
    exact List.contains_iff_mem.2 (List.mem_map_of_mem hft)
  have hvals : valsFO fs fvs = fvs :=
    filterMap_by_key (key := (·.1.name)) (hnames ▸ hnd) (by rw [hnames, namesT_eq_map]) fun ft p hk hf => by
      rw [hf, Option.map_some, ← hk]
  rw [objSel_req_obj (by rw [hkind]; exact nofun) (by rw [fieldNames_compileF]; exact hnd) (.dict js), run]
  simp only [onDict]
  rw [hrun, hlen, dictErrors_nil (by rfl), finishObj_clean hdep, infosM_compileF o ho.fbod, hvals,
    construct_rebuild hkind hnd hnames]
end

theorem roundtripO_ty {o : DOpts} (ho : OptsOk o) (hnc : o.noCopy = false) {so : SOpts}
    (hso1 : so.excludeNone = false) (hso2 : so.excludeDefaults = false) (t : Ty) :
    t.rtO = true → ∀ v, HasTypeO t v = true → RT so (compile o {} t) t v := by
  apply Ty.induct_cs (P := fun _ t => t.rtO = true → ∀ v, HasTypeO t v = true → RT so (compile o {} t) t v) (cs := {})
  case null | bool | int | float | str =>
    -- on a scalar type `HasTypeO` is `HasType`, by unfolding
    exact fun _ _ v hv => roundtrip_ty ho hnc so _ v hv
  case list =>
    intro _ t ih hs v hv
    rw [Ty.rtO] at hs
    simp only [HasTypeO, onListVal_iff] at hv
    obtain ⟨vs, rfl, h⟩ := hv
    simp only [compile]; rw [listSel_copy hnc]
    exact RT_list fun x hx => ih hs x (List.all_eq_true.1 h x hx)
  case vtuple =>
    intro _ t ih hs v hv
    rw [Ty.rtO] at hs
    simp only [HasTypeO, onTupleVal_iff] at hv
    obtain ⟨vs, rfl, h⟩ := hv
    simp only [compile]; rw [listSel_copy hnc]
    exact RT_vtuple (RT_list fun x hx => ih hs x (List.all_eq_true.1 h x hx))
  case tuple =>
    intro _ ts ih hs v hv
    simp only [Ty.rtO, rtOL_iff] at hs
    simp only [HasTypeO, onTupleVal_iff] at hv
    obtain ⟨vs, rfl, h⟩ := hv
    rw [compile_tuple_rep ho, compileL_eq_map]
    exact RT_tuple (.of_all2 (hasTypeZipO_iff.1 h) fun t ht => ih t ht (hs t ht))
  case newtype => intro _ n t ih hs v hv; simp only [Ty.rtO] at hs; simp only [HasTypeO] at hv; exact RT_newtype (ih hs v hv)
  case obj =>
    intro _ ci fs ih hs v hv
    simp only [Ty.rtO, Bool.and_eq_true, beq_iff_eq, rtOF_iff] at hs
    obtain ⟨⟨⟨hkind, hdn⟩, hda⟩, hsF⟩ := hs
    unfold HasTypeO at hv; split at hv
    · next n fvs =>
      simp only [Bool.and_eq_true, beq_iff_eq] at hv
      obtain ⟨⟨rfl, hnames⟩, hF⟩ := hv
      obtain ⟨js, hser, hkeys, hrun⟩ := fieldsRT ho hso1 hso2 ci.name fvs fs (fun ft hft => ih ft hft (hsF ft hft)) hF
      refine ⟨.dict js, ser_obj_ok (by rw [hkind]; rfl) hser, ?_⟩
      simp only [compile]
      exact run_objSel_ok ho hkind (nodup_of_distinctStrs hdn) hnames hkeys
        (hrun js (lookupKey_of_mem_nodup (hkeys ▸ nodup_of_distinctStrs hda)))
    · cases hv
  all_goals intros; rename_i hs _ _; cases hs

/-- **C05 with dataclasses, copying methods.** -/
theorem roundtripO_nocopy_off (o : DOpts) (ho : OptsOk o) (hnc : o.noCopy = false) (so : SOpts)
    (hso1 : so.excludeNone = false) (hso2 : so.excludeDefaults = false) :
    (∀ cs t, cs = {} → t.rtO = true → ∀ v, HasTypeO t v = true → RT so (compile o cs t) t v) ∧
    (∀ (fs : List (FieldInfo × Ty)), rtOF fs = true → ∀ n fvs, hasTypeFO fs fvs = true → FieldsRT o so fs n fvs) ∧
    (∀ cs ts, cs = {} → rtOL ts = true → ∀ vs, hasTypeZipO ts vs = true →
        ∃ js, serTuple so ts vs = .ok js ∧ (compileL o cs ts).length = js.length ∧
          All2 (fun (mj : Meth × Py) v => run mj.1 mj.2 = .ok v) ((compileL o cs ts).zip js) vs) := by
  have key := roundtripO_ty ho hnc hso1 hso2
  refine ⟨fun cs t hc => hc ▸ key t, fun fs hs n fvs => ?_, fun cs ts hc hs vs h => ?_⟩
  · exact fieldsRT ho hso1 hso2 n fvs fs fun ft hft => key ft.2 (rtOF_iff.1 hs ft hft)
  · rw [hc, compileL_eq_map]
    exact RTZip.of_all2 (hasTypeZipO_iff.1 h) fun t ht => key t (rtOL_iff.1 hs t ht)

theorem rtO_scope : ∀ (t : Ty), t.rtO = true → t.scope = true := by
  apply Ty.induct_cs (P := fun _ t => t.rtO = true → t.scope = true) (cs := {})
  case list | vtuple => intro _ t ih h; rw [Ty.rtO] at h; rw [Ty.scope]; exact ih h
  case newtype => intro _ _ t ih h; simp only [Ty.rtO] at h; simp only [Ty.scope]; exact ih h
  case tuple =>
    intro _ ts ih h; simp only [Ty.rtO, rtOL_iff] at h; simp only [Ty.scope, scopeL_iff]; exact fun t ht => ih t ht (h t ht)
  case obj =>
    intro _ ci fs ih h
    simp only [Ty.rtO, Bool.and_eq_true, beq_iff_eq, rtOF_iff] at h
    simp only [Ty.scope]; rw [h.1.1.1, h.1.1.2, scopeF_iff.2 fun ft hft => ih ft hft (h.2 ft hft)]; rfl
  case null | bool | int | float | str => intros; rfl
  all_goals intros; rename_i h; cases h

theorem rtOL_scope : ∀ (ts : List Ty), rtOL ts = true → scopeL ts = true :=
  fun _ h => scopeL_iff.2 fun t ht => rtO_scope t (rtOL_iff.1 h t ht)
theorem rtOF_scope : ∀ (fs : List (FieldInfo × Ty)), rtOF fs = true → scopeF fs = true :=
  fun _ h => scopeF_iff.2 fun ft hft => rtO_scope ft.2 (rtOF_iff.1 h ft hft)

/-- **C05 with dataclasses.** For every typed value of the fragment (primitives, lists, both tuple kinds, NewTypes,
    dataclasses with distinct field names and aliases, nested to any depth), the default serialization options (any
    `additional_properties`), and every deserialization option record of `OptsOk` - `no_copy` on or off,
    `override_dataclass_constructors` on or off, `additional_properties` on or off - serializing and deserializing gives
    the value back, with the same runtime classes. -/
theorem C05_roundtrip_objects (o : DOpts) (ho : OptsOk o) (so : SOpts) (hso1 : so.excludeNone = false)
    (hso2 : so.excludeDefaults = false) (t : Ty) (hs : t.rtO = true) (v : Val) (hv : HasTypeO t v = true) :
    ∃ j, ser so t v = .ok j ∧ run (compile o {} t) j = .ok v := by
  obtain ⟨j, hj, hr⟩ := roundtripO_ty (o := { o with noCopy := false }) ⟨ho.fbod, ho.quirks⟩ rfl hso1 hso2 t hs v hv
  exact ⟨j, hj, (run_compile_copy o {} t (rtO_scope t hs) j).trans hr⟩

/-! ### the hypotheses are satisfiable -/
def exTyO : Ty :=
  .obj { name := "Order", kind := .dataclass }
    [({ name := "id", alias := "ID", required := true }, .int),
     ({ name := "lines", alias := "lines", required := false, dflt := some .emptyList },
        .list (.obj { name := "Line", kind := .dataclass }
          [({ name := "sku", alias := "sku", required := true }, .str),
           ({ name := "pos", alias := "pos", required := true }, .tuple [.int, .float])]))]

def exValO : Val :=
  .obj "Order" [("id", .int 7), ("lines", .list [.obj "Line" [("sku", .str "a"), ("pos", .tuple [.int 1, .float (.fin 2)])]])]

example : exTyO.rtO = true ∧ HasTypeO exTyO exValO = true := by decide +kernel
example : (match ser {} exTyO exValO with
    | .ok j => (run (compile exOpts {} exTyO) j).isOk
    | _ => false) = true := by decide +kernel

end Api
