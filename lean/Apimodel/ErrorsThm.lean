import Apimodel.NoCrashThm
/-!
# C02: the errors of a rejection are exactly the violations, each once, at its location, in order
Index-keyed fragment (lists, both tuple kinds, primitives, `Any`, NewTypes, annotations).
-/
namespace Api

theorem mem_setChild_self (k : Key) (e : Err) (cs) : (k, e) ∈ setChild k e cs := by
  fun_induction setChild k e cs with
  | case1 | case2 | case3 => exact List.mem_cons_self
  | case4 _ _ _ _ _ ih => exact List.mem_cons_of_mem _ ih

theorem mem_setChild_of_mem {k : Key} {e : Err} {p : Key × Err} (hk : p.1 ≠ k) {cs} (h : p ∈ cs) :
    p ∈ setChild k e cs := by
  fun_induction setChild k e cs with
  | case1 => cases h
  | case2 =>
    rcases List.mem_cons.1 h with rfl | h'
    · exact absurd rfl hk
    · exact List.mem_cons_of_mem _ h'
  | case3 => exact List.mem_cons_of_mem _ h
  | case4 _ _ _ _ _ ih => exact (List.mem_cons.1 h).elim (· ▸ List.mem_cons_self) fun h' => List.mem_cons_of_mem _ (ih h')

theorem mem_setChild_inv {k : Key} {e : Err} {p : Key × Err} {cs} (h : p ∈ setChild k e cs) : p = (k, e) ∨ p ∈ cs := by
  fun_induction setChild k e cs with
  | case1 => exact Or.inl (List.mem_singleton.1 h)
  | case2 => exact (List.mem_cons.1 h).imp_right (List.mem_cons_of_mem _)
  | case3 => exact List.mem_cons.1 h
  | case4 _ _ _ _ _ ih =>
    rcases List.mem_cons.1 h with rfl | h'
    · exact Or.inr List.mem_cons_self
    · exact (ih h').imp_right (List.mem_cons_of_mem _)

theorem setChild_front (i : Nat) (e : Err) : ∀ (cs : List (Key × Err)),
    (∀ p ∈ cs, ∃ j, p.1 = .idx j ∧ i < j) → setChild (.idx i) e cs = (.idx i, e) :: cs
  | [], _ => rfl
  | (k, e') :: cs, h => by
    obtain ⟨j, rfl, hlt⟩ := h (k, e') List.mem_cons_self
    rw [setChild, if_neg fun h => Nat.ne_of_lt hlt (Key.idx.inj h),
      if_pos (show (Key.idx i).lt (.idx j) = true from decide_eq_true hlt)]

theorem flatten_ofMsgs (rs : List Rule) : (Err.ofMsgs rs).flatten = ownErrs rs := by
  rw [Err.ofMsgs, Err.flatten, flattenL, List.append_nil, ownErrs]

theorem errs_constrained (rs v) : (constrained rs v).errs = ownErrs rs := by
  cases rs <;> first | rfl | exact flatten_ofMsgs _

theorem errs_badType (c : JClass) {d : Py} (hd : d.json = true) : (badType [c] d).errs = badT c d := by
  cases d <;> first | rfl | cases hd

theorem errs_mapVal_tuple (r : Outcome Val) : (mapVal r listToTuple).errs = r.errs := by
  cases r with
  | ok v => cases v <;> rfl
  | invalid e => rfl
  | crash c => rfl

theorem errs_finish {own : List Rule} {acc : Acc} {mk : List Val → Outcome Val} (ha : acc.crash = Option.none)
    (hmk : ∀ vs, (mk vs).errs = []) :
    (finish (some own) acc mk).errs = ownErrs own ++ flattenL acc.errs := by
  unfold finish
  rw [ha]
  cases own with
  | nil =>
    simp only
    split
    · next he => rw [hmk, List.isEmpty_iff.1 he]; rfl
    · rfl
  | cons r rs => rfl

section loop
variable {α : Type} (f : α → Outcome Val)

theorem loopAcc_keys : ∀ (as : List α) (i : Nat), ∀ p ∈ (loopAcc f i as).errs, ∃ j, p.1 = Key.idx j ∧ i ≤ j
  | [], _, _, h => nomatch h
  | a :: as, i, p, h => by
    have ih : p ∈ (loopAcc f (i+1) as).errs → ∃ j, p.1 = Key.idx j ∧ i ≤ j := fun hp =>
      (loopAcc_keys as (i+1) p hp).imp fun j hj => ⟨hj.1, Nat.le_of_succ_le hj.2⟩
    rw [loopAcc] at h
    cases hr : f a with
    | crash c => rw [hr] at h; cases h
    | ok v => rw [hr] at h; exact ih h
    | invalid e =>
      rw [hr] at h
      rcases mem_setChild_inv h with rfl | h'
      · exact ⟨i, rfl, Nat.le_refl _⟩
      · exact ih h'

/-- One iteration, seen from the errors: the children of the rest all sit under larger indices, so `setChild` puts
    the error of a rejected element in front of them. This is the recursion of `childErrs`. -/
theorem loopAcc_errs_cons (a : α) (as : List α) (i : Nat) (ha : (f a).isCrash = false) :
    (loopAcc f i (a :: as)).errs = match f a with
      | .invalid e => (Key.idx i, e) :: (loopAcc f (i+1) as).errs
      | _ => (loopAcc f (i+1) as).errs := by
  rw [loopAcc]
  cases hr : f a with
  | crash c => rw [hr] at ha; cases ha
  | ok v => rfl
  | invalid e => exact setChild_front i e _ (loopAcc_keys f as (i+1))

theorem flatten_loopAcc_cons (a : α) (as : List α) (i : Nat) (ha : (f a).isCrash = false) :
    flattenL (loopAcc f i (a :: as)).errs = pre (.idx i) (f a).errs ++ flattenL (loopAcc f (i+1) as).errs := by
  rw [loopAcc_errs_cons f a as i ha]
  cases f a <;> rfl
end loop

def childErrs (f : Py → Outcome Val) : Nat → List Py → List (Key × Err)
  | _, [] => []
  | i, x :: xs => match f x with
    | .invalid e => (.idx i, e) :: childErrs f (i+1) xs
    | _ => childErrs f (i+1) xs

theorem collect_errs (f : Py → Outcome Val) : ∀ (xs : List Py) (i : Nat),
    (∀ x ∈ xs, (f x).isCrash = false) → (collect f i xs).errs = childErrs f i xs
  | [], _, _ => rfl
  | x :: xs, i, h => by
    rw [List.forall_mem_cons] at h
    rw [collect_eq_loop, loopAcc_errs_cons f x xs i h.1, ← collect_eq_loop, collect_errs f xs (i+1) h.2, childErrs]

theorem flatten_childErrs (f : Py → Outcome Val) : ∀ (xs : List Py) (i : Nat),
    flattenL (childErrs f i xs) = violIdx (fun x => (f x).errs) i xs
  | [], _ => by rw [childErrs, violIdx, flattenL]
  | x :: xs, i => by
    rw [childErrs, violIdx, ← flatten_childErrs f xs (i+1)]
    cases f x <;> first | rfl | rw [flattenL]

theorem violIdx_congr {f g : Py → Errs} : ∀ (xs : List Py) (i : Nat), (∀ x ∈ xs, f x = g x) →
    violIdx f i xs = violIdx g i xs
  | [], _, _ => rfl
  | x :: xs, i, h => by
    rw [violIdx, violIdx, h x (List.mem_cons_self ..),
      violIdx_congr xs (i+1) (fun y hy => h y (List.mem_cons_of_mem _ hy))]

def ErrsOk (m : Meth) (cs : Constraints) (t : Ty) : Prop :=
  NC m ∧ ∀ d, d.json = true → (run m d).errs = violations cs t d

abbrev ErrsOkL (cs : Constraints) := All2 (fun (m : Meth) (t : Ty) => ErrsOk m cs t)

theorem runTuple_errs {ms : List Meth} {ts : List Ty} (h : ErrsOkL {} ms ts) : ∀ (xs : List Py) (i : Nat),
    jsonL xs = true →
    (∀ p ∈ (runTuple ms i xs).errs, ∃ j, p.1 = Key.idx j ∧ i ≤ j) ∧
    flattenL (runTuple ms i xs).errs = violZip ts i xs := by
  intro xs i hx
  refine ⟨by rw [runTuple_eq_loop]; exact loopAcc_keys _ _ i, ?_⟩
  induction h generalizing xs i with
  | nil => rfl
  | @cons m t ms ts hm _ ih =>
    cases xs with
    | nil => rfl
    | cons x xs =>
      rw [jsonL, Bool.and_eq_true] at hx
      rw [runTuple_eq_loop, List.zip_cons_cons, flatten_loopAcc_cons (fun mx : Meth × Py => run mx.1 mx.2) (m, x) _ i (hm.1 x (jsonX_of_json.1 x hx.1)),
        ← runTuple_eq_loop, ih xs (i+1) hx.2, hm.2 x hx.1, violZip]

/-! Each scalar method (but `runAny`, by cases on the datum) is read branch by branch (`fun_cases`); in each branch the clause of `violations` is the same, its side
conditions being those of the branch. -/
theorem errs_runNone (c : Constraints) {d : Py} (hd : d.json = true) : (runNone d).errs = violations c .null d := by
  fun_cases runNone d
  · rw [violations]; rfl
  · rw [violations, errs_badType _ hd]; assumption

theorem errs_runBool (c : Constraints) {d : Py} (hd : d.json = true) : (runBool d).errs = violations c .bool d := by
  fun_cases runBool d
  · rw [violations]; rfl
  · rw [violations, errs_badType _ hd]; assumption

theorem errs_runInt (c : Constraints) {d : Py} (hd : d.json = true) : (runInt c d).errs = violations c .int d := by
  fun_cases runInt c d
  · rw [violations]; exact errs_constrained _ _
  · rw [violations, errs_badType _ hd]; assumption

theorem errs_runStr (c : Constraints) {d : Py} (hd : d.json = true) : (runStr c d).errs = violations c .str d := by
  fun_cases runStr c d
  · rw [violations]; exact errs_constrained _ _
  · rw [violations, errs_badType _ hd]; assumption

theorem errs_runFloat (c : Constraints) {d : Py} (hd : d.json = true) :
    (runFloat false c d).errs = violations c .float d := by
  fun_cases runFloat false c d
  · rw [violations]; exact errs_constrained _ _
  · rw [Py.json] at hd
    obtain ⟨f, hf⟩ := Option.isSome_iff_exists.1 hd
    rw [violations, intAsFloat, hf]; exact errs_constrained _ _
  · contradiction
  · rw [violations, errs_badType _ hd] <;> nofun
  · rw [violations, errs_badType _ hd] <;> assumption

theorem errs_runAny (c : Constraints) (hu : c.unique = false) {d : Py} (hd : d.json = true) :
    (runAny c d).errs = violations c .any d := by
  cases d <;> try (first | exact errs_constrained _ _ | rfl | cases hd)
  case list xs =>
    obtain ⟨rs, hrs⟩ := listErrors_some c xs hu
    rw [violations, runAny, hrs]; exact errs_constrained _ _

theorem errs_onList {d : Py} (hd : d.json = true) {k : List Py → Outcome Val} {E : Errs}
    (hl : ∀ xs, d = .list xs → (k xs).errs = E) (hb : (∀ xs, d = .list xs → False) → badT .list d = E) :
    (onList d k).errs = E := by
  fun_cases onList d k
  · exact hl _ rfl
  · rw [errs_badType _ hd]; exact hb ‹_›

theorem errs_listSel {o : DOpts} {c : Constraints} {m : Meth} {t : Ty} (hu : c.unique = false) (hm : ErrsOk m {} t)
    {d : Py} (hd : d.json = true) : (run (listSel o c m) d).errs = violations c (.list t) d := by
  have key (mk : List Val → Outcome Val) (hmk : ∀ vs, (mk vs).errs = []) :
      (onList d fun xs => finish (c.listErrors xs) (collect (fun x => run m x) 0 xs) mk).errs
        = violations c (.list t) d := by
    refine errs_onList hd (fun xs hxs => ?_) fun hn => by rw [violations]; exact hn
    subst hxs
    rw [Py.json, jsonL_iff] at hd
    have hnc : ∀ x ∈ xs, (run m x).isCrash = false := fun x hx => hm.1 x (jsonX_of_json.1 x (hd x hx))
    obtain ⟨rs, hrs⟩ := listErrors_some c xs hu
    rw [violations, hrs, errs_finish (collect_nocrash _ xs 0 hnc) hmk, collect_errs _ xs 0 hnc,
      flatten_childErrs, violIdx_congr xs 0 fun x hx => hm.2 x (hd x hx)]; rfl
  unfold listSel; split <;> (rw [run]; exact key _ fun _ => rfl)

theorem errs_tuple {c : Constraints} {ms : List Meth} {ts : List Ty} (hu : c.unique = false) (h : ErrsOkL {} ms ts)
    {d : Py} (hd : d.json = true) : (run (.tuple false c ms) d).errs = violations c (.tuple ts) d := by
  simp only [run]
  refine errs_onList hd (fun xs hxs => ?_) fun hn => by rw [violations]; exact hn
  subst hxs
  rw [Py.json] at hd
  simp only [violations, tupleBody, Bool.false_eq_true, if_false]
  rw [h.length_eq]
  split
  · rfl
  · split
    · rfl
    · have hcr := runTuple_nocrash ms xs 0 (h.forall_left fun _ _ hm => hm.1) (jsonX_of_json.2.2 xs hd)
      obtain ⟨rs, hrs⟩ := listErrors_some c xs hu
      rw [hrs, errs_finish hcr fun _ => rfl, (runTuple_errs h xs 0 hd).2]; rfl

/-- the index-keyed fragment lies inside `Ty.acc`: the hypothesis `t.acc = true` of the statements below is implied by `t.efrag = true` -/
theorem efrag_acc (t : Ty) : t.efrag = true → t.acc = true := by
  apply Ty.induct_cs (P := fun _ t => t.efrag = true → t.acc = true) (cs := {})
  case list | vtuple => intro _ t ih h; rw [Ty.efrag] at h; rw [Ty.acc]; exact ih h
  case newtype | ann => intro _ _ t ih h; simp only [Ty.efrag] at h; simp only [Ty.acc]; exact ih h
  case tuple => intro _ ts ih h; simp only [Ty.efrag, efragL_iff] at h; simp only [Ty.acc, accL_iff]; exact fun t ht => ih t ht (h t ht)
  case set | frozenset | union => intro _ _ _ h; cases h
  case mapping => intro _ _ _ _ _ h; cases h
  case obj => intro _ _ _ _ h; cases h
  case literal => intro _ _ h; cases h
  case enum => intro _ _ _ h; cases h
  all_goals intros; rfl

theorem errs_compile (o : DOpts) (ho : OptsOk o) :
    ∀ cs t, t.nouq = true → t.efrag = true → cs.unique = false →
      ∀ d, d.json = true → (run (compile o cs t) d).errs = violations cs t d := by
  have ok (t) (hn : t.nouq = true) (he : t.efrag = true)
      (h : ∀ d, d.json = true → (run (compile o {} t) d).errs = violations {} t d) : ErrsOk (compile o {} t) {} t :=
    ⟨(no_crash o ho).1 {} t (efrag_acc t he) hn rfl, h⟩
  apply Ty.induct_cs
  case null => intro cs _ _ _ d hd; rw [compile, run]; exact errs_runNone cs hd
  case bool => intro cs _ _ _ d hd; rw [compile, run]; exact errs_runBool cs hd
  case int => intro cs _ _ _ d hd; rw [run_compile_int]; exact errs_runInt cs hd
  case float => intro cs _ _ _ d hd; rw [run_compile_float, ho.quirks]; exact errs_runFloat cs hd
  case str => intro cs _ _ _ d hd; rw [run_compile_str]; exact errs_runStr cs hd
  case any => intro cs _ _ hu d hd; rw [compile, run]; exact errs_runAny cs hu hd
  case list =>
    intro cs t ih hn he hu d hd; rw [Ty.nouq] at hn; rw [Ty.efrag] at he
    simp only [compile]; exact errs_listSel hu (ok t hn he (ih hn he rfl)) hd
  case vtuple =>
    intro cs t ih hn he hu d hd; rw [Ty.nouq] at hn; rw [Ty.efrag] at he
    -- `errs_listSel` speaks of `.list t`: the clauses of `violations` for `.list` and `.vtuple` are the same term
    simp only [compile, run]; rw [errs_mapVal_tuple]; exact errs_listSel hu (ok t hn he (ih hn he rfl)) hd
  case tuple =>
    intro cs ts ih hn he hu d hd
    simp only [Ty.nouq, nouqL_iff] at hn; simp only [Ty.efrag, efragL_iff] at he
    simp only [compile, ho.tupleDropsErrors, compileL_eq_map]
    exact errs_tuple hu (All2.map_left fun t ht => ok t (hn t ht) (he t ht) (ih t ht (hn t ht) (he t ht) rfl)) hd
  case newtype =>
    intro cs n t ih hn he hu d hd; rw [Ty.nouq] at hn; simp only [Ty.efrag] at he
    simp only [compile, violations]; exact ih hn he hu d hd
  case ann =>
    intro cs c t ih hn he hu d hd
    rw [Ty.nouq, Bool.and_eq_true, Bool.not_eq_true'] at hn; simp only [Ty.efrag] at he
    simp only [compile, violations]; exact ih hn.2 he (merge_unique hn.1 hu) d hd
  case set | frozenset => intro cs t _ _ he; cases he
  case mapping => intro cs k v _ _ _ he; cases he
  case union => intro cs ts _ _ he; cases he
  case literal => intro cs vs _ he; cases he
  case enum => intro cs c ms _ he; cases he
  case obj => intro cs ci _ _ _ he; cases he

/-- **C02, index-keyed fragment.** The flattened errors of the compiled method are exactly the
    specification's violations — own messages first, then each child's violations under its index, in
    index order; nothing dropped, nothing duplicated, nothing at a valid location — for every nesting
    depth, every number and position of simultaneous violations, `no_copy` on or off. (The part about fields is
    `True`: objects are outside `Ty.efrag`; their errors are the subject of `ObjErrorsThm`.) -/
theorem errors_eq_violations (o : DOpts) (ho : OptsOk o) :
    (∀ cs t, t.acc = true → t.nouq = true → t.efrag = true → cs.unique = false → ErrsOk (compile o cs t) cs t) ∧
    (∀ (fs : List (FieldInfo × Ty)), True) ∧
    (∀ cs ts, accL ts = true → nouqL ts = true → efragL ts = true → cs.unique = false →
        ErrsOkL cs (compileL o cs ts) ts) := by
  have key cs t (ha : t.acc = true) (hn : t.nouq = true) (he : t.efrag = true) (hu : cs.unique = false) :
      ErrsOk (compile o cs t) cs t := ⟨(no_crash o ho).1 cs t ha hn hu, errs_compile o ho cs t hn he hu⟩
  refine ⟨key, fun _ => trivial, fun cs ts ha hn he hu => ?_⟩
  rw [compileL_eq_map]
  exact All2.map_left fun t ht => key cs t (accL_iff.1 ha t ht) (nouqL_iff.1 hn t ht) (efragL_iff.1 he t ht) hu

theorem C02_errors_eq_partial (o : DOpts) (ho : OptsOk o) (t : Ty) (ha : t.acc = true) (hn : t.nouq = true)
    (he : t.efrag = true) (d : Py) (hd : d.json = true) :
    (deserialize o {} t d).errs = violations {} t d := by
  unfold deserialize
  simp only [(compile_noFail o).1 {} t ha]
  exact ((errors_eq_violations o ho).1 {} t ha hn he rfl).2 d hd

/-- the specification evaluated: four simultaneous violations at three depths, in index order -/
example : violations {} (.list (.tuple [.int, .list (.ann { max := some (.int 5) } .int)]))
    (.list [.list [.str "a", .list [.int 9, .bool true]], .int 3])
  = [([.idx 0, .idx 0], .badType .int (some .str)),
     ([.idx 0, .idx 1, .idx 0], .maximum (.int 5)),
     ([.idx 0, .idx 1, .idx 1], .badType .int (some .bool)),
     ([.idx 1], .badType .list (some .int))] := by decide +kernel

/-- the pinned tree (`TupleMethod` discards the result of `set_child_error`, row 1) violates the statement -/
theorem C02_tuple_counterexample :
    (deserialize { quirks := Quirks.current } {} (.tuple [.int, .str]) (.list [.str "a", .str "b"])).isOk = true
    ∧ violations {} (.tuple [.int, .str]) (.list [.str "a", .str "b"]) ≠ [] := by decide +kernel

end Api
