/-!
# C19: the GraphQL schema mirrors the data model (nullability, list elements, names); the argument gate of a resolver

Python return / field types on one side, GraphQL types on the other; `gqlOut` is the output-type translation of
`graphql/schema.py` (non-null unless `Optional`; `List` of the translated element; named object / scalar types).
-/
namespace Api.Gql

inductive PTy where
  | scalar (n : String)                          -- int / str / float / bool / ID / custom scalar
  | opt (t : PTy)
  | list (t : PTy)
  | obj (n : String)                             -- dataclass / NamedTuple / TypedDict: a named object type
  deriving Repr

inductive GTy where
  | named (n : String)
  | list (t : GTy)
  | nonNull (t : GTy)
  deriving DecidableEq, Repr

/-- the nullable core of a type's translation -/
def core : PTy → GTy
  | .scalar n => .named n
  | .opt t => core t                         -- `typing` flattens Optional[Optional[T]]
  | .list t => .list (match t with | .opt _ => core t | _ => .nonNull (core t))
  | .obj n => .named n

def gqlOut (t : PTy) : GTy := match t with | .opt _ => core t | _ => .nonNull (core t)

def PTy.isOpt : PTy → Bool | .opt _ => true | _ => false
def GTy.isNonNull : GTy → Bool | .nonNull _ => true | _ => false

theorem core_nullable : ∀ (t : PTy), (core t).isNonNull = false
  | .scalar _ | .obj _ | .list _ => rfl
  | .opt t => core_nullable t

/-- **C19 (nullability).** A field / resolver type is non-null exactly when it is not `Optional` -/
theorem C19_nullability (t : PTy) : (gqlOut t).isNonNull = !t.isOpt := by
  cases t with
  | opt t => exact core_nullable (.opt t)
  | _ => rfl

/-- ... at every list level: the element type of a list is translated like a field type -/
theorem C19_list_elements (t : PTy) : core (.list t) = .list (gqlOut t) := by
  cases t <;> rfl

def leafName : PTy → String
  | .scalar n => n | .opt t => leafName t | .list t => leafName t | .obj n => n
def GTy.leaf : GTy → String
  | .named n => n | .list t => t.leaf | .nonNull t => t.leaf

/-- **C19 (names).** The named GraphQL type is the class / scalar the Python type bottoms out in -/
theorem C19_names : ∀ (t : PTy), (gqlOut t).leaf = leafName t ∧ (core t).leaf = leafName t
  | .scalar _ | .obj _ => ⟨rfl, rfl⟩
  | .opt t => ⟨(C19_names t).2, (C19_names t).2⟩
  | .list t =>
    -- the element of a list is translated like a field
    have h : (core (.list t)).leaf = leafName (.list t) := by rw [C19_list_elements]; exact (C19_names t).1
    ⟨h, h⟩

/-- distinct named Python types are translated to distinct GraphQL types (one-to-one on names) -/
theorem C19_one_to_one (s t : PTy) (h : gqlOut s = gqlOut t) : leafName s = leafName t := by
  rw [← (C19_names s).1, ← (C19_names t).1, h]

/-! ## argument gating (the decision logic of `resolver_resolve`) -/

/-- a resolver is invoked iff every supplied argument deserializes; otherwise the errors are reported and the
    resolver is not called -/
def resolve (args : List (String × Option Nat)) (invoke : List Nat → Nat) : Except (List String) Nat :=
  let bad := args.filterMap (fun a => match a.2 with | none => some a.1 | some _ => Option.none)
  if bad.isEmpty then .ok (invoke (args.filterMap (·.2))) else .error bad

theorem C19_args_gate (args : List (String × Option Nat)) (invoke : List Nat → Nat) :
    (∃ r, resolve args invoke = .ok r) ↔ ∀ a ∈ args, a.2.isSome = true := by
  have hbad : (args.filterMap (fun a => match a.2 with | none => some a.1 | some _ => Option.none)).isEmpty = true ↔
      ∀ a ∈ args, a.2.isSome = true := by
    rw [List.isEmpty_iff, List.filterMap_eq_nil_iff]
    refine forall_congr' fun a => forall_congr' fun _ => ?_
    cases a.2 <;> simp
  rw [← hbad, resolve]
  split <;> simp [*]

/-- non-vacuity: `Optional[List[Optional[int]]]` and `List[int]` -/
example : gqlOut (.opt (.list (.opt (.scalar "Int")))) = .list (.named "Int") := by decide +kernel
example : gqlOut (.list (.scalar "Int")) = .nonNull (.list (.nonNull (.named "Int"))) := by decide +kernel

end Api.Gql
