import Apimodel.BExpr
import Apimodel.BExprAttr
/-! Looking an atom up in a table whose keys are literals, without evaluating `String.decEq` (dear in the kernel): a hit is syntactic,
and a miss rests on `String.reduceEq`, whose proof compares one character.  The source-tie modules resolve the atoms of a
generated condition with `simp only [bexpr, String.reduceEq, …the tables and the generated terms…]` and are left with the written
condition as a Boolean formula in the variables of the model (or, for `covered`, with `True`). -/
namespace Api.BExpr

theorem lookup_cons_self (s : String) (v : Bool) (rest : List (String × Bool)) : lookup ((s, v) :: rest) s = some v := by
  simp [lookup]

theorem lookup_cons_ne {k s : String} (h : ¬k = s) (v : Bool) (rest : List (String × Bool)) :
    lookup ((k, v) :: rest) s = lookup rest s := by
  simp [lookup, h]

attribute [bexpr] evalT eval covered atoms lookup_cons_self lookup_cons_ne not_false_eq_true Option.getD_some Option.isSome_some
  List.all_cons List.all_nil List.cons_append List.nil_append Bool.and_self and_self

end Api.BExpr
