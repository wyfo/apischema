import Apimodel.ListLemmas
import Apimodel.SchemaSem
import Apimodel.DeserLemmas
import Apimodel.Scopes
/-!
# C06: the deserialization schema validates exactly the conforming data
-/
namespace Api

theorem minOpt_none_right {α} (le : α → α → Bool) (a : Option α) (b : Bool) : minOpt le a Option.none b = a := by
  cases a <;> rfl
theorem minOpt_none_left {α} (le : α → α → Bool) (a : Option α) (b : Bool) : minOpt le Option.none a b = a := by
  cases a <;> rfl

theorem merge_empty_right (c : Constraints) : c.merge {} = c := by
  cases c with
  | mk a b c d e f g h i j k l m =>
    show Constraints.merge _ _ = _
    unfold Constraints.merge
    simp only [minOpt_none_right, Bool.or_false]
    congr 1
    · cases e <;> rfl
    · cases h <;> rfl

theorem merge_empty_left (c : Constraints) : Constraints.merge {} c = c := by
  cases c with
  | mk a b c d e f g h i j k l m =>
    show Constraints.merge _ _ = _
    unfold Constraints.merge
    simp only [minOpt_none_left, Bool.false_or]

theorem onListB_true (d : Py) : onListB d (fun _ => true) = true := by cases d <;> rfl
theorem onDictB_true (d : Py) : onDictB d (fun _ => true) = true := by cases d <;> rfl

theorem validates_leaf (ty : List JT) (cs : Constraints) (dflt : Option Py) (d : Py) :
    validates (.mk ty Option.none [] cs Option.none Option.none [] [] Option.none [] [] dflt) d
      = ((ty.isEmpty || ty.any (typeMatches d)) && consOk cs d) := by
  rw [validates]
  simp only [vPre, vItems, vProps, vPats, vAddl, vAnyO, List.all_nil, Bool.and_true, List.isEmpty_nil,
    Bool.true_or, onListB_true, onDictB_true]

def lenOk (c : Constraints) (n : Nat) : Bool :=
  (match c.minItems with | some m => decide (m ≤ n) | Option.none => true) &&
  (match c.maxItems with | some m => decide (n ≤ m) | Option.none => true)

theorem lenOk_eq (c : Constraints) (n : Nat) :
    lenOk c n = (c.minItems.all (· ≤ n) && c.maxItems.all (n ≤ ·)) := by
  unfold lenOk; cases c.minItems <;> cases c.maxItems <;> rfl

/-- `merge_constraints` keeps the larger of two lower bounds: it holds iff both do -/
theorem minOpt_lower (a b : Option Nat) (n : Nat) :
    (minOpt (fun x y => decide (x ≤ y)) a b false).all (· ≤ n) = (a.all (· ≤ n) && b.all (· ≤ n)) := by
  cases a <;> cases b <;> simp only [minOpt, Option.all_none, Option.all_some, Bool.true_and, Bool.and_true]
  rw [Bool.eq_iff_iff]
  split <;> simp at * <;> omega

/-- … and the smaller of two upper bounds -/
theorem minOpt_upper (a b : Option Nat) (n : Nat) :
    (minOpt (fun x y => decide (x ≤ y)) a b true).all (n ≤ ·) = (a.all (n ≤ ·) && b.all (n ≤ ·)) := by
  cases a <;> cases b <;> simp only [minOpt, Option.all_none, Option.all_some, Bool.true_and, Bool.and_true]
  rw [Bool.eq_iff_iff]
  split <;> simp at * <;> omega

theorem lenOk_merge (a b : Constraints) (n : Nat) : lenOk (a.merge b) n = (lenOk a n && lenOk b n) := by
  simp only [lenOk_eq, Constraints.merge, minOpt_lower, minOpt_upper]
  ac_rfl

theorem optRule_isEmpty {α} (o : Option α) (ok : α → Bool) (r : α → Rule) : (optRule o ok r).isEmpty = o.all ok := by
  cases o with
  | none => rfl
  | some a => rw [optRule, Option.all_some]; cases ok a <;> rfl

theorem listErrors_nounique (c : Constraints) (xs : List Py) (hu : c.unique = false) :
    (c.listErrors xs == some []) = lenOk c xs.length := by
  rw [Constraints.listErrors, hu, lenOk_eq, ← optRule_isEmpty _ _ .minItems, ← optRule_isEmpty _ _ .maxItems]
  simp only [Bool.false_eq_true, if_false, Option.some_beq_some, List.beq_nil_eq]
  cases optRule c.minItems _ Rule.minItems <;> rfl

theorem consOk_list (c : Constraints) (xs : List Py) (hu : c.unique = false) :
    consOk c (.list xs) = lenOk c xs.length := by
  unfold consOk lenOk
  simp only [Py.num?, hu, Bool.not_false, Bool.true_or, Bool.and_true, Bool.true_and]
  cases c.minItems <;> cases c.maxItems <;> rfl

theorem consOk_list_eq_listErrors (cs : Constraints) (xs : List Py) (hu : cs.unique = false) :
    consOk cs (.list xs) = (cs.listErrors xs == some []) := by
  rw [consOk_list cs xs hu, listErrors_nounique cs xs hu]

theorem null_leaf (cs d) : (([JT.null].any (typeMatches d)) && consOk cs d) = d.isNull := by
  cases d <;> rfl
theorem bool_leaf (cs d) : (([JT.boolean].any (typeMatches d)) && consOk cs d) = d.isBool := by
  cases d <;> rfl
theorem int_leaf (cs d) (hs : d.sane = true) : (([JT.integer].any (typeMatches d)) && consOk cs d) = intOk cs d := by
  cases d with
  | int i => simp [typeMatches, intOk, consOk, Py.num?]
  | float f =>
    cases f with
    | fin q =>
      -- an integer-valued float is not sane
      rw [Py.sane, Bool.not_eq_true'] at hs
      simp [typeMatches, intOk, hs]
    | _ => rfl
  | _ => rfl
theorem str_leaf (cs d) : (([JT.string].any (typeMatches d)) && consOk cs d) = strOk cs d := by
  cases d <;> first | rfl | simp [typeMatches, strOk, consOk, Py.num?]
theorem any_leaf (cs d) (hs : d.sane = true) (hu : cs.unique = false) : consOk cs d = anyOk cs d := by
  cases d with
  | list xs => exact consOk_list_eq_listErrors cs xs hu
  | dictNS kvs => cases hs
  | _ => simp [anyOk, consOk, Py.num?]

theorem validates_withDefault (s : Sch) (x : Option Py) (d : Py) : validates (s.withDefault x) d = validates s d := by
  cases s; simp only [Sch.withDefault]
  unfold validates; rfl

theorem validates_fieldSchema (f t s d) : validates (fieldSchema f t s) d = validates s d := by
  unfold fieldSchema; split
  · exact validates_withDefault _ _ _
  · rfl

theorem propNames_buildDF (ap : Bool) : ∀ fs, propNames (buildDF ap fs) = aliasesOf fs
  | [] => by rw [buildDF, propNames, aliasesOf]
  | (f, t) :: fs => by rw [buildDF, propNames, aliasesOf, propNames_buildDF ap fs]

theorem Lit.eq_str_of_isStr {v : Lit} (h : v.isStr = true) : ∃ s, v = .str s := by
  cases v <;> first | exact ⟨_, rfl⟩ | cases h

/-- on string literals, the only ones `Ty.sch` admits, JSON equality and Python equality coincide (elsewhere they do not:
    `True == 1` in Python, `1 != true` in JSON) -/
theorem lit_str_eq (d : Py) (vs : List Lit) (hv : vs.all Lit.isStr = true) :
    vs.any (jsonEqLit d) = (d.hashable && vs.any (litMatches d)) := by
  induction vs with
  | nil => simp
  | cons v vs ih =>
    simp only [List.all_cons, Bool.and_eq_true] at hv
    obtain ⟨s, rfl⟩ := Lit.eq_str_of_isStr hv.1
    rw [List.any_cons, List.any_cons, ih hv.2, Bool.and_or_distrib_left]
    congr 1
    cases d <;> rfl

theorem mergeInto_empty (s : Sch) : mergeInto {} s = s := by
  cases s; simp only [mergeInto, Sch.withCons, Sch.cons, merge_empty_left]

theorem consOk_empty (d : Py) : consOk {} d = true := by cases d <;> rfl

theorem validates_of_isEmpty {s : Sch} (h : s.isEmpty = true) (d : Py) : validates s d = true := by
  unfold Sch.isEmpty at h
  split at h
  · next c =>
    have hc : c = {} := by simpa using h
    subst hc
    rw [validates_leaf]; simp [consOk_empty]
  · cases h

theorem vItems_subKw (s : Sch) (xs : List Py) : vItems (subKw s) xs = xs.all (fun x => validates s x) := by
  unfold subKw; split
  · next he => rw [vItems]; exact (List.all_eq_true.2 fun x _ => validates_of_isEmpty he x).symm
  · rw [vItems]
theorem vAddl_subKw (s : Sch) (kvs : List (String × Py)) : vAddl (subKw s) kvs = kvs.all (fun kv => validates s kv.2) := by
  unfold subKw; split
  · next he => rw [vAddl]; exact (List.all_eq_true.2 fun x _ => validates_of_isEmpty he x.2).symm
  · rw [vAddl]
theorem vAddl_apKw (ap : Bool) (kvs : List (String × Py)) : vAddl (apKw ap) kvs = (ap || kvs.isEmpty) := by
  cases ap <;> rfl

theorem validates_array (cs : Constraints) (items : Option (Bool ⊕ Sch)) (pre : Option (List Sch)) (dflt : Option Py) (d : Py) :
    validates (.mk [.array] none [] cs items pre [] [] none [] [] dflt) d
      = (match d with
         | .list xs => consOk cs d && (vPre pre xs && vItems items (xs.drop (preLen pre)))
         | _ => false) := by
  rw [validates]
  cases d with
  | list xs => simp only [typeMatches, onListB, onDictB, vAnyO, List.isEmpty_cons, List.isEmpty_nil, List.any_cons, List.any_nil,
      Bool.false_or, Bool.or_false, Bool.true_and, Bool.and_true]
  | _ => rfl

/-- `items` is dropped when the item schema is `{}`: same instances -/
theorem validates_array' (cs : Constraints) (s : Sch) (d : Py) :
    validates (.mk [.array] Option.none [] cs (subKw s) Option.none [] [] Option.none [] [] Option.none) d
      = (match d with | .list xs => consOk cs d && xs.all (fun x => validates s x) | _ => false) := by
  rw [validates_array]; simp only [vPre, preLen, List.drop_zero, vItems_subKw, Bool.true_and]

theorem drop_isEmpty {α} (xs : List α) (n : Nat) : (xs.drop n).isEmpty = decide (xs.length ≤ n) := by
  rw [Bool.eq_iff_iff, List.isEmpty_iff, List.drop_eq_nil_iff, decide_eq_true_iff]

theorem validates_mapping (cs : Constraints) (props : List (String × Sch)) (req : List String) (addl : Option (Bool ⊕ Sch))
    (dflt : Option Py) (d : Py) :
    validates (.mk [.object] none [] cs none none props req addl [] [] dflt) d
      = (match d with
         | .dict kvs => consOk cs d && (vProps props kvs && req.all (fun r => (lookupKey kvs r).isSome))
                          && vAddl addl (kvs.filter (fun kv => !(propNames props).contains kv.1))
         | _ => false) := by
  rw [validates]
  cases d with
  | dict kvs => simp only [typeMatches, onListB, onDictB, vAnyO, vPats, patList, List.isEmpty_cons, List.isEmpty_nil, List.any_cons, List.any_nil,
      Bool.false_or, Bool.or_false, Bool.not_false, Bool.true_and, Bool.and_true, Bool.and_assoc]
  | _ => rfl

theorem validates_mapping' (cs : Constraints) (s : Sch) (d : Py) :
    validates (.mk [.object] Option.none [] cs Option.none Option.none [] [] (subKw s) [] [] Option.none) d
      = (match d with | .dict kvs => consOk cs d && kvs.all (fun kv => validates s kv.2) | _ => false) := by
  have hf : ∀ kvs : List (String × Py), kvs.filter (fun _ => true) = kvs := fun kvs => List.filter_eq_self.2 fun _ _ => rfl
  rw [validates_mapping]
  simp only [vProps, propNames, List.all_nil, List.contains_nil, Bool.not_false, hf, vAddl_subKw, Bool.and_true]

/-- `additionalProperties: true` is dropped: same instances -/
theorem validates_object' (cs : Constraints) (props : List (String × Sch)) (req : List String) (ap : Bool) (d : Py) :
    validates (.mk [.object] Option.none [] cs Option.none Option.none props req (apKw ap) [] [] Option.none) d
      = (match d with
         | .dict kvs => consOk cs d && (vProps props kvs && req.all (fun r => (lookupKey kvs r).isSome))
                          && (ap || kvs.all (fun kv => (propNames props).contains kv.1))
         | _ => false) := by
  rw [validates_mapping]; simp only [vAddl_apKw, filter_isEmpty, Bool.not_not]

theorem tuple_len (cs : Constraints) (n len : Nat) :
    (lenOk (cs.merge { minItems := some n, maxItems := some n }) len && decide (len ≤ n))
      = (len == n && lenOk cs len) := by
  have h : (lenOk { minItems := some n, maxItems := some n } len && decide (len ≤ n)) = (len == n) := by
    simp only [lenOk]; rw [Bool.eq_iff_iff]; simp; omega
  rw [lenOk_merge, Bool.and_assoc, h, Bool.and_comm]

theorem buildDL_eq_map (ap : Bool) : ∀ ts, buildDL ap ts = ts.map (buildD ap) :=
  eq_map_of_cons (by rw [buildDL]) fun _ _ => by rw [buildDL]

theorem validates_lit (ty : List JT) (const : Option Lit) (enum : List Lit) (d : Py) :
    validates (.mk ty const enum {} Option.none Option.none [] [] Option.none [] [] Option.none) d
      = ((ty.isEmpty || ty.any (typeMatches d)) &&
         (match const with | Option.none => true | some l => jsonEqLit d l) &&
         (enum.isEmpty || enum.any (jsonEqLit d))) := by
  unfold validates
  simp only [vPre, vItems, vProps, vPats, vAddl, vAnyO, List.all_nil, Bool.and_true,
    onListB_true, onDictB_true, consOk_empty]
  cases const <;> rfl

theorem dedup_str : ∀ (vs : List Lit), vs.all Lit.isStr = true →
    (vs.map litJT).foldl (fun acc t => if acc.contains t then acc else acc ++ [t]) [JT.string] = [JT.string]
  | [], _ => rfl
  | v :: vs, h => by
    rw [List.all_cons, Bool.and_eq_true] at h
    obtain ⟨s, rfl⟩ := Lit.eq_str_of_isStr h.1
    exact dedup_str vs h.2

theorem any_str_type {d : Py} {vs : List Lit} (hv : vs.all Lit.isStr = true) (h : vs.any (jsonEqLit d) = true) :
    typeMatches d .string = true := by
  obtain ⟨v, hm, hj⟩ := List.any_eq_true.1 h
  obtain ⟨s, rfl⟩ := Lit.eq_str_of_isStr (List.all_eq_true.mp hv v hm)
  cases d <;> first | rfl | cases hj

theorem literal_ok (vs : List Lit) (hne : vs.isEmpty = false) (hv : vs.all Lit.isStr = true) (d : Py) :
    validates (literalSchema vs) d = (d.hashable && vs.any (litMatches d)) := by
  have hty : (vs.map litJT).foldl (fun acc t => if acc.contains t then acc else acc ++ [t]) [] = [JT.string] := by
    cases vs with
    | nil => cases hne
    | cons v vs =>
      rw [List.all_cons, Bool.and_eq_true] at hv
      obtain ⟨s, rfl⟩ := Lit.eq_str_of_isStr hv.1
      exact dedup_str vs hv.2
  -- `const` for one value, `enum` for several: either way the value is one of `vs`
  have hval : validates (literalSchema vs) d = (typeMatches d .string && vs.any (jsonEqLit d)) := by
    unfold literalSchema
    split <;> simp only [hty, validates_lit, hne, List.isEmpty_nil, List.isEmpty_cons, List.any_cons, List.any_nil,
      Bool.false_or, Bool.or_false, Bool.and_true]
  rw [hval, ← lit_str_eq d vs hv]
  cases hj : vs.any (jsonEqLit d)
  · rw [Bool.and_false]
  · rw [any_str_type hv hj]; rfl

theorem consOk_null (c : Constraints) : consOk c .null = true := rfl

theorem typeMatches_null (d : Py) : typeMatches d .null = d.isNull := by cases d <;> rfl

theorem validates_addNull (ty : List JT) (cons : Constraints) (items : Option (Bool ⊕ Sch)) (pre : Option (List Sch))
    (props : List (String × Sch)) (req : List String) (addl : Option (Bool ⊕ Sch)) (pats : List (Pat × Sch))
    (dflt : Option Py) (hty : ty ≠ []) (d : Py) :
    validates (.mk (ty ++ [.null]) Option.none [] cons items pre props req addl pats [] dflt) d
      = (validates (.mk ty Option.none [] cons items pre props req addl pats [] dflt) d || d.isNull) := by
  have he : ty.isEmpty = false := by cases ty <;> first | rfl | exact absurd rfl hty
  have he' : (ty ++ [JT.null]).isEmpty = false := by cases ty <;> rfl
  rw [validates, validates, List.any_append, List.any_cons, List.any_nil, Bool.or_false, typeMatches_null, he, he']
  cases hn : d.isNull
  · simp only [Bool.or_false]
  · -- on `null` the other keywords say nothing
    obtain rfl := Py.eq_null_of_isNull hn
    simp [consOk_null, onListB, onDictB, vAnyO]

theorem onlyType_mk {ty c e cons i p pr r a pa an d} (h : (Sch.mk ty c e cons i p pr r a pa an d).onlyType = true) :
    c = none ∧ e = [] ∧ cons = {} ∧ i = none ∧ p = none ∧ pr = [] ∧ r = [] ∧ a = none ∧ pa = [] ∧ an = [] ∧ d = none := by
  unfold Sch.onlyType at h
  split at h
  · next heq => cases heq; simp_all
  · cases h

theorem union_opt (r : Sch) (he : r.isEmpty = false) (hot : r.onlyType = false) (hty : r.type.isEmpty = false)
    (hnl : r.noLits = true) (hnn : r.type.contains .null = false) :
    unionSchema [r, Sch.ofType .null] = r.withType (r.type ++ [.null]) := by
  have n1 : (Sch.ofType .null).isEmpty = false := rfl
  have n2 : (Sch.ofType .null).onlyType = true := rfl
  have n3 : (Sch.ofType .null).type = [.null] := rfl
  have n4 : (Sch.ofType .null).noLits = true := rfl
  have hnn' : JT.null ∉ r.type := by simpa using hnn
  unfold unionSchema
  simp [he, hot, n1, n2, n3, n4, hty, hnl, hnn']

/-- `_visited_union` of a node with a single non-null `type` and no `const` / `enum` / `anyOf` / `default` with
    `{"type": "null"}`: `"null"` joins the `type` list, whether the node is a bare `type` or more -/
theorem union_null (j : JT) (hj : j ≠ .null) (cons items pre props req addl pats) :
    unionSchema [.mk [j] none [] cons items pre props req addl pats [] none, Sch.ofType .null]
      = .mk [j, .null] none [] cons items pre props req addl pats [] none := by
  by_cases hot : (Sch.mk [j] none [] cons items pre props req addl pats [] none).onlyType = true
  · obtain ⟨-, -, rfl, rfl, rfl, rfl, rfl, rfl, rfl, -, -⟩ := onlyType_mk hot
    cases j <;> first | rfl | exact absurd rfl hj
  · refine union_opt _ rfl (by simpa using hot) rfl rfl ?_
    cases j <;> first | rfl | exact absurd rfl hj

theorem union_prim (j : JT) (hj : j ≠ .null) :
    unionSchema [Sch.ofType j, Sch.ofType .null]
      = .mk [j, .null] Option.none [] {} Option.none Option.none [] [] Option.none [] [] Option.none :=
  union_null j hj ..

theorem union_array (cons : Constraints) (items : Option (Bool ⊕ Sch)) (pre : Option (List Sch)) :
    unionSchema [.mk [.array] Option.none [] cons items pre [] [] Option.none [] [] Option.none, Sch.ofType .null]
      = .mk ([.array] ++ [.null]) Option.none [] cons items pre [] [] Option.none [] [] Option.none :=
  union_null .array (by decide) ..

theorem union_object (props : List (String × Sch)) (req : List String) (addl : Option (Bool ⊕ Sch)) :
    unionSchema [.mk [.object] Option.none [] {} Option.none Option.none props req addl [] [] Option.none, Sch.ofType .null]
      = .mk ([.object] ++ [.null]) Option.none [] {} Option.none Option.none props req addl [] [] Option.none :=
  union_null .object (by decide) ..

theorem validates_union_null (j : JT) (hj : j ≠ .null) (cons items pre props req addl pats) (d : Py) :
    validates (unionSchema [.mk [j] none [] cons items pre props req addl pats [] none, Sch.ofType .null]) d
      = (validates (.mk [j] none [] cons items pre props req addl pats [] none) d || d.isNull) := by
  rw [union_null j hj]; exact validates_addNull [j] _ _ _ _ _ _ _ _ (by simp) d

/-! The nodes of `buildD` under inherited constraints, evaluated in the vocabulary of the specification (`listOk`, `tupleOk`,
`dictOk`): the container cases of `schemaOk` are then congruences. -/
theorem mergeInto_mk (cs : Constraints) (ty c e c0 i p pr r a pa an d) :
    mergeInto cs (.mk ty c e c0 i p pr r a pa an d) = .mk ty c e (cs.merge c0) i p pr r a pa an d := rfl

theorem validates_ofType (cs : Constraints) (j : JT) (d : Py) :
    validates (mergeInto cs (Sch.ofType j)) d = ([j].any (typeMatches d) && consOk cs d) := by
  rw [Sch.ofType, mergeInto_mk, merge_empty_right, validates_leaf]; rfl

theorem consOk_dict (cs : Constraints) (kvs : List (String × Py)) :
    consOk cs (.dict kvs) = (cs.dictErrors kvs.length).isEmpty := by simp only [consOk, Py.num?, Bool.true_and]

theorem validates_listNode (cs : Constraints) (hu : cs.unique = false) (s : Sch) (d : Py) :
    validates (mergeInto cs (.mk [.array] none [] {} (subKw s) none [] [] none [] [] none)) d
      = listOk cs d (fun x => validates s x) := by
  rw [mergeInto_mk, merge_empty_right, validates_array']
  cases d <;> first | rfl | simp only [listOk, consOk_list_eq_listErrors cs _ hu]

/-- the tuple's own `minItems = maxItems = n`, merged with the inherited bounds, says `len = n` and the inherited bounds -/
theorem validates_tupleNode (cs : Constraints) (hu : cs.unique = false) (ss : List Sch) (n : Nat) (hn : ss.length = n) (d : Py) :
    validates (mergeInto cs (.mk [.array] none [] { minItems := some n, maxItems := some n }
        (some (.inl false)) (some ss) [] [] none [] [] none)) d
      = tupleOk cs d n (fun xs => vZip ss xs) := by
  subst hn
  rw [mergeInto_mk, validates_array]
  cases d <;> try rfl
  case list xs =>
    have hu' : (cs.merge { minItems := some ss.length, maxItems := some ss.length }).unique = false :=
      merge_unique hu rfl
    simp only [tupleOk, vPre, preLen, vItems, Bool.false_or, consOk_list _ xs hu', listErrors_nounique cs xs hu, drop_isEmpty]
    rw [← Bool.and_assoc, Bool.and_right_comm, tuple_len]

theorem validates_mapNode (cs : Constraints) (s : Sch) (d : Py) :
    validates (mergeInto cs (.mk [.object] none [] {} none none [] [] (subKw s) [] [] none)) d
      = dictOk cs d (fun kvs => kvs.all (fun kv => validates s kv.2)) := by
  rw [mergeInto_mk, merge_empty_right, validates_mapping']
  cases d <;> first | rfl | simp only [dictOk, consOk_dict]

theorem validates_objNode (cs : Constraints) (props : List (String × Sch)) (req : List String) (ap : Bool) (d : Py) :
    validates (mergeInto cs (.mk [.object] none [] {} none none props req (apKw ap) [] [] none)) d
      = dictOk cs d (fun kvs => vProps props kvs && req.all (fun r => (lookupKey kvs r).isSome)
          && noUnexpected ap (propNames props) kvs) := by
  rw [mergeInto_mk, merge_empty_right, validates_object']
  cases d <;> first | rfl | simp only [dictOk, consOk_dict, noUnexpected, Bool.and_assoc]

theorem conforms_optional (ap fbod : Bool) (cs : Constraints) (t : Ty) (d : Py) :
    conforms ap fbod cs (.union [t, .null]) d = (conforms ap fbod cs t d || d.isNull) := by
  rw [conforms, conformsAny, conformsAny, conformsAny, conforms, Bool.or_false]

theorem mappingSchema_str (s : Sch) :
    mappingSchema (Sch.ofType .string) s = .mk [.object] none [] {} none none [] [] (subKw s) [] [] none := rfl

theorem conforms_str_key (ap fbod : Bool) (s : String) : conforms ap fbod {} .str (.str s) = true := rfl

/-- `Optional[T]`, for the types that may stand under it: `{}` stays `{}`, every other node has one non-null `type` -/
theorem validates_optional (ap : Bool) {t : Ty} (hin : t.optInner = true) (d : Py) :
    validates (unionSchema [buildD ap t, Sch.ofType .null]) d = (validates (buildD ap t) d || d.isNull) := by
  cases t with
  | any => rw [buildD, validates_of_isEmpty (s := Sch.empty) rfl]; exact validates_of_isEmpty rfl d
  | mapping k v => simp only [buildD, mappingSchema]; split <;> exact validates_union_null _ (by decide) ..
  | bool | int | str | list _ | vtuple _ | tuple _ | obj _ _ => simp only [buildD]; exact validates_union_null _ (by decide) ..
  | _ => cases hin

/-- `cs = {} ∨ t.isBase` is the invariant of the induction: constraints are inherited only from an `Annotated`, under which
    `Ty.sch` admits base types only (on a literal or an enum the schema shows a constraint that deserialization ignores:
    row 40, `C06_literal_constraint_counterexample`). -/
def SchemaOk (ap : Bool) (cs : Constraints) (t : Ty) (d : Py) : Prop :=
  t.sch = true → (cs = {} ∨ t.isBase = true) → cs.unique = false → d.sane = true →
    validates (mergeInto cs (buildD ap t)) d = conforms ap false cs t d

theorem SchemaOk.plain {ap : Bool} {t : Ty} {d : Py} (h : SchemaOk ap {} t d) (ht : t.sch = true) (hd : d.sane = true) :
    validates (buildD ap t) d = conforms ap false {} t d := by
  have := h ht (Or.inl rfl) rfl hd
  rwa [mergeInto_empty] at this

theorem sane_list {xs : List Py} (h : (Py.list xs).sane = true) : ∀ x ∈ xs, x.sane = true :=
  saneL_iff.1 (by rwa [Py.sane] at h)
theorem sane_dict {kvs : List (String × Py)} (h : (Py.dict kvs).sane = true) : ∀ kv ∈ kvs, kv.2.sane = true :=
  saneK_iff.1 (by rwa [Py.sane] at h)

theorem vZip_conformsZip {ap fbod : Bool} {g : Ty → Sch} : ∀ (ts : List Ty) (xs : List Py),
    (∀ t ∈ ts, ∀ x ∈ xs, validates (g t) x = conforms ap fbod {} t x) →
    vZip (ts.map g) xs = conformsZip ap fbod ts xs
  -- `intros; contradiction`: the side condition of the catch-all equation of `conformsZip` (the arguments are not two conses)
  | [], _, _ => by rw [conformsZip]; rfl; intros; contradiction
  | _ :: _, [], _ => by rw [conformsZip]; rfl; intros; contradiction
  | t :: ts, x :: xs, h => by
    rw [List.map_cons, vZip, conformsZip, h t (List.mem_cons_self ..) x (List.mem_cons_self ..),
      vZip_conformsZip ts xs fun t' ht x' hx => h t' (List.mem_cons_of_mem _ ht) x' (List.mem_cons_of_mem _ hx)]

theorem field_ok {f : FieldInfo} (hf : f.fbod = false) (o : Option Py) {p q : Py → Bool} {g : String → Bool}
    (hg : g f.alias = o.isSome) (h : ∀ x, o = some x → p x = q x) :
    (propOk o p && (if f.required then [f.alias] else []).all g) = fieldOk false f o q := by
  cases o with
  | none => cases hr : f.required <;> simp [propOk, fieldOk, hr, hg]
  | some x => cases hr : f.required <;> simp [propOk, fieldOk, hr, hg, hf, h x rfl]

theorem fields_ok {ap : Bool} {kvs : List (String × Py)} : ∀ (fs : List (FieldInfo × Ty)),
    (∀ ft ∈ fs, ft.1.fbod = false ∧ ∀ kv ∈ kvs, validates (buildD ap ft.2) kv.2 = conforms ap false {} ft.2 kv.2) →
    (vProps (buildDF ap fs) kvs && (requiredF fs).all (fun r => (lookupKey kvs r).isSome)) = conformsF ap false fs kvs
  | [], _ => by rw [buildDF, requiredF, vProps, conformsF]; rfl
  | (f, t) :: fs, h => by
    obtain ⟨⟨hf, ht⟩, hfs⟩ := List.forall_mem_cons.1 h
    rw [buildDF, requiredF, vProps, conformsF, List.all_append, ← fields_ok fs hfs,
      ← field_ok hf (lookupKey kvs f.alias) (p := fun x => validates (fieldSchema f t (buildD ap t)) x)
        (g := fun r => (lookupKey kvs r).isSome) rfl
        (fun x hx => (validates_fieldSchema ..).trans (ht (_, x) (lookupKey_mem hx)))]
    ac_rfl

theorem cs_empty {cs : Constraints} {t : Ty} (hb : cs = {} ∨ t.isBase = true) (ht : t.isBase = false) : cs = {} :=
  hb.resolve_right (by rw [ht]; exact Bool.noConfusion)

theorem schemaOk (ap : Bool) : ∀ cs t d, SchemaOk ap cs t d := by
  apply Ty.induct_cs
  case null => intro cs d _ _ _ _; rw [buildD, conforms, validates_ofType]; exact null_leaf cs d
  case bool => intro cs d _ _ _ _; rw [buildD, conforms, validates_ofType]; exact bool_leaf cs d
  case int => intro cs d _ _ _ hs; rw [buildD, conforms, validates_ofType]; exact int_leaf cs d hs
  case str => intro cs d _ _ _ _; rw [buildD, conforms, validates_ofType]; exact str_leaf cs d
  case any =>
    intro cs d _ _ hu hs
    rw [buildD, conforms, Sch.empty, mergeInto_mk, merge_empty_right, validates_leaf]; exact any_leaf cs d hs hu
  case float => intro cs d h; cases h
  case set | frozenset => intro cs t _ d h; cases h
  case list | vtuple =>
    intro cs t ih d h _ hu hs
    simp only [Ty.sch] at h
    simp only [buildD, conforms]; rw [validates_listNode cs hu]
    exact listOk_congr_mem fun xs hd x hx => (ih x).plain h (sane_list (hd ▸ hs) x hx)
  case tuple =>
    intro cs ts ih d h _ hu hs
    simp only [Ty.sch, schL_iff] at h
    simp only [buildD, conforms, buildDL_eq_map]; rw [validates_tupleNode cs hu _ _ (List.length_map ..)]
    exact tupleOk_congr fun xs hd => vZip_conformsZip ts xs fun t ht x hx =>
      (ih t ht x).plain (h t ht) (sane_list (hd ▸ hs) x hx)
  case mapping =>
    intro cs k v _ ihv d h _ hu hs
    simp only [Ty.sch, Bool.and_eq_true] at h
    obtain rfl : k = .str := by
      have hk := h.1
      unfold Ty.isStr at hk; split at hk
      · rfl
      · cases hk
    simp only [buildD]; rw [conforms, mappingSchema_str, validates_mapNode]
    exact dictOk_congr fun kvs hd => all_congr_mem fun kv hkv => by
      rw [(ihv kv.2).plain h.2 (sane_dict (hd ▸ hs) kv hkv), conforms_str_key, Bool.true_and]
  case union =>
    intro cs ts ih d h hb _ hs
    simp only [Ty.sch] at h
    obtain ⟨t, rfl, hin, hsch⟩ := schOpt_cases h
    obtain rfl := cs_empty hb rfl
    simp only [buildD, buildDL]
    rw [mergeInto_empty, conforms_optional, ← (ih t (List.mem_cons_self ..) d).plain hsch hs]
    exact validates_optional ap hin d
  case literal =>
    intro cs vs d h hb _ _
    simp only [Ty.sch, Bool.and_eq_true, Bool.not_eq_true'] at h
    obtain rfl := cs_empty hb rfl
    simp only [buildD, conforms]; rw [mergeInto_empty]
    exact literal_ok vs h.1 h.2 d
  case enum =>
    intro cs cls ms d h hb _ _
    simp only [Ty.sch, Bool.and_eq_true, Bool.not_eq_true'] at h
    obtain rfl := cs_empty hb rfl
    simp only [buildD, conforms]
    rw [mergeInto_empty, literal_ok _ (by rw [List.isEmpty_map]; exact h.1) (by rw [List.all_map]; exact h.2) d,
      List.any_map]
    rfl
  case newtype =>
    intro cs n t ih d h hb hu hs
    simp only [Ty.sch] at h
    simp only [buildD, conforms]; exact ih d h (Or.inl (cs_empty hb rfl)) hu hs
  case ann =>
    intro cs c t ih d h hb hu hs
    simp only [Ty.sch, Bool.and_eq_true, Bool.not_eq_true'] at h
    obtain rfl := cs_empty hb rfl
    simp only [buildD, conforms]; rw [mergeInto_empty]
    have := ih d h.2 (Or.inr h.1.2) (merge_unique h.1.1 rfl) hs
    rwa [merge_empty_right] at this ⊢
  case obj =>
    intro cs ci fs ih d h _ hu hs
    simp only [Ty.sch, schF_iff] at h
    simp only [buildD, conforms]; rw [validates_objNode, propNames_buildDF]
    exact dictOk_congr fun kvs hd => by
      rw [fields_ok fs fun ft hft => ⟨(h ft hft).1.1, fun kv hkv =>
          (ih ft hft kv.2).plain (h ft hft).2 (sane_dict (hd ▸ hs) kv hkv)⟩,
        depOk_of_noDeps (infos := infosOf fs) (List.forall_mem_map.2 fun ft hft => (h ft hft).1.2), Bool.and_true]

/-- **C06.** For every type of the scope `Ty.sch` and every JSON datum without integer-valued
    floats, the generated deserialization schema (2020-12 semantics) validates the datum iff the datum
    conforms to the type — any nesting depth, any width, `additional_properties` on or off. -/
theorem schema_iff_conforms (ap : Bool) :
    (∀ cs t d, SchemaOk ap cs t d) ∧
    (∀ fs kvs, schF fs = true → saneK kvs = true →
        (vProps (buildDF ap fs) kvs && (requiredF fs).all (fun r => (lookupKey kvs r).isSome))
          = conformsF ap false fs kvs) ∧
    (∀ (cs : Constraints) (ts : List Ty) (d : Py), ∀ t, ts = [t, .null] → SchemaOk ap cs t d) ∧
    (∀ ts xs, schL ts = true → saneL xs = true → vZip (buildDL ap ts) xs = conformsZip ap false ts xs) := by
  refine ⟨schemaOk ap, fun fs kvs hf hk => ?_, fun cs _ d t _ => schemaOk ap cs t d, fun ts xs ht hx => ?_⟩
  · exact fields_ok fs fun ft hft => ⟨(schF_iff.1 hf ft hft).1.1, fun kv hkv =>
      (schemaOk ap {} ft.2 kv.2).plain (schF_iff.1 hf ft hft).2 (saneK_iff.1 hk kv hkv)⟩
  · rw [buildDL_eq_map]
    exact vZip_conformsZip ts xs fun t h x hxm => (schemaOk ap {} t x).plain (schL_iff.1 ht t h) (saneL_iff.1 hx x hxm)

theorem C06_schema_iff_conforms (ap : Bool) (t : Ty) (ht : t.sch = true) (d : Py) (hd : d.sane = true) :
    validates (buildD ap t) d = conforms ap false {} t d :=
  (schemaOk ap {} t d).plain ht hd

/-- the exclusions are needed (row 40): a constraint attached to a literal type is shown by the schema and
    ignored by deserialization -/
theorem C06_literal_constraint_counterexample :
    validates (buildD false (.ann { minLen := some 2 } (.literal [.str "a", .str "bb"]))) (.str "a") = false
    ∧ conforms false false {} (.ann { minLen := some 2 } (.literal [.str "a", .str "bb"])) (.str "a") = true := by
  decide +kernel

/-- … and an integer-valued float is an `integer` for JSON Schema only -/
theorem C06_int_float_counterexample :
    validates (buildD false .int) (.float (.fin 1)) = true ∧ conforms false false {} .int (.float (.fin 1)) = false := by
  decide +kernel

end Api
