import Apimodel.Basic
/-!
# Type grammar, options, typed values
-/
namespace Api

/-- a compiled start-anchored pattern from the harness's small regex language -/
inductive Pat where
  | prefix_ (s : String)           -- `^s`
  | lower                          -- `^[a-z]+$`
  | anyOf (alts : List String)     -- `^(a|b|c)$`
  deriving DecidableEq, Repr, Inhabited

def Pat.source : Pat → String
  | .prefix_ s => "^" ++ s
  | .lower => "^[a-z]+$"
  | .anyOf alts => "^(" ++ "|".intercalate alts ++ ")$"

def Pat.isMatch : Pat → String → Bool
  | .prefix_ p, s => p.isPrefixOf s
  | .lower, s => !s.isEmpty && s.all Char.isLower
  | .anyOf alts, s => alts.contains s

/-- `apischema.constraints.Constraints` -/
structure Constraints where
  min : Option Num := none
  max : Option Num := none
  excMin : Option Num := none
  excMax : Option Num := none
  multOf : Option Num := none
  minLen : Option Nat := none
  maxLen : Option Nat := none
  pattern : Option Pat := none
  minItems : Option Nat := none
  maxItems : Option Nat := none
  unique : Bool := false
  minProps : Option Nat := none
  maxProps : Option Nat := none
  deriving DecidableEq, Repr, Inhabited

def Constraints.empty : Constraints := {}

/-- default of a non-required field (value or factory result) -/
inductive Dflt where
  | lit (l : Lit) | emptyList | emptyDict
  deriving DecidableEq, Repr, Inhabited

/-- field of an object type, with everything deserialization looks at -/
structure FieldInfo where
  name : String
  /-- external name: dynamic aliaser ∘ class aliaser ∘ alias -/
  alias : String
  required : Bool
  /-- field-level `fall_back_on_default` (the option is or-ed in by `compile`) -/
  fbod : Bool := false
  dflt : Option Dflt := none
  /-- `dependent_required`: external names of the fields that require this one (`Field.required_by` in deserialization/methods.py) -/
  requiredBy : List String := []
  deriving DecidableEq, Repr, Inhabited

inductive ObjKind where
  | dataclass | namedTuple | typedDict
  deriving DecidableEq, Repr, Inhabited

structure ClassInfo where
  name : String
  kind : ObjKind := .dataclass
  /-- `is_raw_dataclass(cls)` -/
  raw : Bool := true
  deriving DecidableEq, Repr, Inhabited

/-- finite type trees -/
inductive Ty where
  | null | bool | int | float | str
  | any
  | list (t : Ty) | set (t : Ty) | frozenset (t : Ty) | vtuple (t : Ty)
  | tuple (ts : List Ty)
  | mapping (k v : Ty)
  | union (ts : List Ty)
  | literal (vs : List Lit)
  | enum (cls : String) (members : List (String × Lit))
  | newtype (name : String) (t : Ty)
  | ann (c : Constraints) (t : Ty)
  | obj (c : ClassInfo) (fields : List (FieldInfo × Ty))
  deriving Repr, Inhabited

/-- known deviations of the code from the properties; `current` (the default) is the tree before the repairs of
    rows 1 and 2, `repaired` the tree as it is: the theorems ask for `repaired` (`OptsOk`) -/
structure Quirks where
  /-- `TupleMethod` drops the result of `set_child_error` -/
  tupleDropsErrors : Bool := true
  /-- `FloatMethod` accepts `bool` through `isinstance(data, int)` -/
  floatAcceptsBool : Bool := true
  deriving DecidableEq, Repr, Inhabited

def Quirks.current : Quirks := {}
def Quirks.repaired : Quirks := { tupleDropsErrors := false, floatAcceptsBool := false }

/-- options of `deserialize` that the model covers -/
structure DOpts where
  additionalProperties : Bool := false
  fallBackOnDefault : Bool := false
  noCopy : Bool := true
  overrideCtor : Bool := false
  coerce : Bool := false
  quirks : Quirks := {}
  deriving DecidableEq, Repr, Inhabited

/-- typed result values (runtime class + content) -/
inductive Val where
  | null | bool (b : Bool) | int (i : Int) | float (f : Flt) | str (s : String)
  | list (xs : List Val) | tuple (xs : List Val)
  | set (xs : List Val) | frozenset (xs : List Val)
  | dict (kvs : List (Val × Val))
  /-- class instance: its field values (`construct` fills an absent field with its default) -/
  | obj (cls : String) (fields : List (String × Val))
  /-- NamedTuple instance (a `tuple`: hashable when its items are) -/
  | ntuple (cls : String) (fields : List (String × Val))
  | enumMember (cls : String) (member : String)
  /-- a non-JSON object returned as is (`Any`) -/
  | other (cls : String)
  deriving Repr, Inhabited

end Api
