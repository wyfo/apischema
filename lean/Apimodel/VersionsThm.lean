import Apimodel.Versions
/-!
# C18: the older-dialect rewrite accepts exactly the same instances
-/
namespace Api

theorem v07Addi_some {arr : Option (List S07)} (h : arr.isSome = true) (o : Option (Bool ⊕ S07)) (rest : List Py) :
    v07Addi arr o rest = v07One o rest := by
  cases arr with
  | none => cases h
  | some l => cases o with
    | none => rfl
    | some x => cases x <;> rfl

/-- array form of `items` plus `additionalItems`: the prefix position by position, the rest against the one schema -
    which is how 2020-12 reads `prefixItems` plus `items` -/
theorem v07_array (arr : Option (List S07)) (one : Option (Bool ⊕ S07)) (xs : List Py) :
    (v07One (selItemsOne arr one) xs && v07Arr arr xs && v07Addi arr (selAdditional arr one) (xs.drop (arrLen arr)))
      = (v07Arr arr xs && v07One one (xs.drop (arrLen arr))) := by
  cases arr with
  | none => rw [selItemsOne, selAdditional, v07Addi, v07Arr, Bool.and_true, Bool.and_true, Bool.true_and]; rfl
  | some l => rw [selItemsOne, selAdditional, v07One, Bool.true_and, v07Addi_some rfl]

theorem to07_preserves (q : VQuirks) :
    (∀ s : Sch, ∀ d, v07 (to07 q s) d = validates s d) ∧
    (∀ l : List Sch, (∀ xs, v07Zip (to07L q l) xs = vZip l xs) ∧ (∀ d, v07Any (to07L q l) d = vAny l d) ∧
        (∀ d, v07AnyO (to07L q l) d = vAnyO l d) ∧ (to07L q l).length = l.length) ∧
    (∀ ps : List (Pat × Sch), (∀ kvs, v07Pats (to07Pat q ps) kvs = vPats ps kvs) ∧
        patList07 (to07Pat q ps) = patList ps) ∧
    (∀ ps : List (String × Sch), (∀ kvs, v07Props (to07P q ps) kvs = vProps ps kvs) ∧
        propNames07 (to07P q ps) = propNames ps) ∧
    (∀ o : Option (Bool ⊕ Sch), (∀ xs, v07One (to07I q o) xs = vItems o xs) ∧
        (∀ rest, v07Addl (to07I q o) rest = vAddl o rest) ∧
        (∀ arr rest, arr.isSome = true → v07Addi arr (to07I q o) rest = vItems o rest)) ∧
    (∀ o : Option (List Sch), (∀ xs, v07Arr (to07Pre q o) xs = vPre o xs) ∧ arrLen (to07Pre q o) = preLen o ∧
        ((to07Pre q o).isSome = o.isSome)) := by
  apply to07.mutual_induct
  -- the cases, here and in `to07_clean`: the node; `to07I` (none, Boolean, schema); `to07Pre` (none, some);
  -- `to07P` (nil, cons); `to07Pat` (nil, cons); `to07L` (nil, cons)
  · intro ty const enum cons items pre props req addl pats anyOf dflt hpre hitems hprops haddl hpats hany d
    rw [to07]; unfold v07 validates
    simp only [v07_array]
    simp only [hpre.1, hpre.2.1, hitems.1, hprops.1, hprops.2, hpats.1, hpats.2, haddl.2.1, hany.2.2.1]
    rfl
  · exact ⟨fun _ => rfl, fun _ => rfl, fun _ _ _ => rfl⟩
  · exact fun b => ⟨fun _ => rfl, fun _ => rfl, fun _ r ha => v07Addi_some ha _ r⟩
  · intro s ih
    have h1 (xs) : v07One (to07I q (some (.inr s))) xs = vItems (some (.inr s)) xs := by simp only [to07I, v07One, vItems, ih]
    exact ⟨h1, fun r => by simp only [to07I, v07Addl, vAddl, ih], fun _ r ha => (v07Addi_some ha _ r).trans (h1 r)⟩
  · exact ⟨fun _ => rfl, rfl, rfl⟩
  · exact fun l ih => ⟨fun xs => by rw [to07Pre, v07Arr, vPre]; exact ih.1 xs, by rw [to07Pre]; exact ih.2.2.2, by rw [to07Pre]; rfl⟩
  · exact ⟨fun _ => rfl, rfl⟩
  · exact fun k s ps ihs ihps =>
      ⟨fun kvs => by simp only [to07P, v07Props, vProps, ihps.1, ihs], by rw [to07P, propNames07, propNames, ihps.2]⟩
  · exact ⟨fun _ => rfl, rfl⟩
  · exact fun p s ps ihs ihps =>
      ⟨fun kvs => by simp only [to07Pat, v07Pats, vPats, ihps.1, ihs], by rw [to07Pat, patList07, patList, ihps.2]⟩
  · exact ⟨fun xs => by cases xs <;> rfl, fun _ => rfl, fun _ => rfl, rfl⟩
  · intro s ss ihs ihss
    refine ⟨fun xs => ?_, fun d => ?_, fun d => ?_, ?_⟩
    · rw [to07L]
      cases xs with
      | nil => rfl
      | cons x xs => rw [v07Zip, vZip, ihs x, ihss.1 xs]
    · rw [to07L, v07Any, vAny, ihs d, ihss.2.1 d]
    · rw [to07L, v07AnyO, vAnyO, ihs d, ihss.2.1 d]
    · rw [to07L, List.length_cons, List.length_cons, ihss.2.2.2]

/-- **C18 (2019-09 / draft-07 rewrite of the array keywords).** For every schema over the emitted keywords
    and every JSON datum, the rewritten schema under the older dialect's semantics validates the datum iff
    the original does under 2020-12 — with or without the stale `prefixItems` keyword. -/
theorem C18_to07_preserves (q : VQuirks) (s : Sch) (d : Py) : v07 (to07 q s) d = validates s d :=
  (to07_preserves q).1 s d

theorem C18_buildD (q : VQuirks) (ap : Bool) (t : Ty) (d : Py) :
    v07 (to07 q (buildD ap t)) d = validates (buildD ap t) d := C18_to07_preserves q _ d

theorem to07_clean :
    (∀ s : Sch, (to07 { keepsPrefixItems := false } s).clean = true) ∧
    (∀ l : List Sch, cleanL (to07L { keepsPrefixItems := false } l) = true) ∧
    (∀ l : List (Pat × Sch), cleanPat (to07Pat { keepsPrefixItems := false } l) = true) ∧
    (∀ l : List (String × Sch), cleanP (to07P { keepsPrefixItems := false } l) = true) ∧
    (∀ o : Option (Bool ⊕ Sch), cleanI (to07I { keepsPrefixItems := false } o) = true) ∧
    (∀ o : Option (List Sch), cleanO (to07Pre { keepsPrefixItems := false } o) = true) := by
  apply to07.mutual_induct
  · intro ty const enum cons items pre props req addl pats anyOf dflt hpre hitems hprops haddl hpats hany
    rw [to07, S07.clean, hpre, hprops, haddl, hpats, hany]
    -- `items` goes to one of the two places, the other stays empty; nothing is kept as `prefixItems`
    cases to07Pre { keepsPrefixItems := false } pre <;> simp only [selItemsOne, selAdditional, hitems, cleanI] <;> rfl
  · rfl
  · exact fun _ => rfl
  · exact fun s ih => by rw [to07I, cleanI]; exact ih
  · rfl
  · exact fun l ih => by rw [to07Pre, cleanO]; exact ih
  · rfl
  · exact fun k s ps ihs ihps => by rw [to07P, cleanP, ihs, ihps]; rfl
  · rfl
  · exact fun p s ps ihs ihps => by rw [to07Pat, cleanPat, ihs, ihps]; rfl
  · rfl
  · exact fun s ss ihs ihss => by rw [to07L, cleanL, ihs, ihss]; rfl

/-- **C18 (vocabulary).** Since the repair of row 18 (`prefixItems` is moved, not copied) the 2019-09 / draft-07
    output contains no `prefixItems` at any nesting level — for every schema over the emitted keywords. -/
theorem C18_vocabulary (s : Sch) : (to07 { keepsPrefixItems := false } s).clean = true := to07_clean.1 s

/-- on the pinned tree the clause failed: `prefixItems` survived in the 2019-09 / draft-07 output (row 18) -/
theorem C18_vocabulary_counterexample :
    (to07 { keepsPrefixItems := true } (buildD false (.tuple [.int]))).foreignKeywords = true
    ∧ (to07 { keepsPrefixItems := true } (buildD false (.list (.tuple [.int])))).clean = false
    ∧ (to07 { keepsPrefixItems := false } (buildD false (.tuple [.int]))).foreignKeywords = false := by
  decide +kernel

end Api
