import Apimodel.AcceptThm
/-!
# C13: union dispatch shortcuts equal try-each-alternative
-/
namespace Api

/-- specification: the value of the first alternative that accepts -/
def firstOk : List Meth → Py → Option Val
  | [], _ => Option.none
  | m :: ms, d => match (run m d).val? with
    | some v => some v
    | Option.none => firstOk ms d

theorem firstOk_cons_ok {m ms d v} (h : run m d = .ok v) : firstOk (m :: ms) d = some v := by
  simp [firstOk, h, Outcome.val?]
theorem firstOk_cons_rej {m ms d} (h : (run m d).val? = Option.none) : firstOk (m :: ms) d = firstOk ms d := by
  simp [firstOk, h]

/-- `UnionMethod` = try each alternative in order, provided no alternative crashes on the datum -/
theorem C13_sequential : ∀ (ms : List Meth) (d : Py) (err : Option Err),
    (∀ m ∈ ms, (run m d).isCrash = false) → (runUnion ms d err).val? = firstOk ms d
  | [], d, err, _ => by
    rw [runUnion, firstOk]; unfold unionEnd; cases err <;> rfl
  | m :: ms, d, err, h => by
    rw [runUnion]
    have hm := h m (List.mem_cons_self ..)
    cases hr : run m d with
    | ok v => rw [firstOk_cons_ok hr]; rfl
    | crash c => rw [hr] at hm; cases hm
    | invalid e =>
      have : (run m d).val? = Option.none := by rw [hr]; rfl
      rw [firstOk_cons_rej this]
      unfold unionStep
      exact C13_sequential ms d _ (fun m' hm' => h m' (List.mem_cons_of_mem _ hm'))

def ByTypeSound (tbl : List (JClass × Meth)) : Prop :=
  ∀ p ∈ tbl, ∀ d v, run p.2 d = .ok v → d.jclass? = some p.1

/-- `ByTypeSound` at one datum, which is all that the dispatch lemmas use -/
def ByTypeSoundAt (tbl : List (JClass × Meth)) (d : Py) : Prop :=
  ∀ p ∈ tbl, ∀ v, run p.2 d = .ok v → d.jclass? = some p.1

theorem ByTypeSound.at {tbl} (h : ByTypeSound tbl) (d : Py) : ByTypeSoundAt tbl d := fun p hp v hv => h p hp d v hv

theorem val?_none_of_class {p : JClass × Meth} {d : Py} {c : JClass}
    (hs : ∀ v, run p.2 d = .ok v → d.jclass? = some p.1) (hd : d.jclass? = some c) (hc : p.1 ≠ c) :
    (run p.2 d).val? = Option.none := by
  cases hr : run p.2 d with
  | ok v => exact absurd (Option.some.inj ((hs v hr).symm.trans hd)) hc
  | invalid e => rfl
  | crash x => rfl

theorem firstOk_none_of_class {tbl : List (JClass × Meth)} {d : Py} {c : JClass}
    (hs : ByTypeSoundAt tbl d) (hd : d.jclass? = some c) (hc : ∀ p ∈ tbl, p.1 ≠ c) :
    firstOk (tbl.map (·.2)) d = Option.none := by
  induction tbl with
  | nil => rfl
  | cons p tbl ih =>
    rw [List.map_cons, firstOk_cons_rej (val?_none_of_class (hs p (List.mem_cons_self ..)) hd (hc p (List.mem_cons_self ..)))]
    exact ih (fun q hq => hs q (List.mem_cons_of_mem _ hq)) (fun q hq => hc q (List.mem_cons_of_mem _ hq))

theorem firstOk_cons_of_rest {m ms d} (h : firstOk ms d = Option.none) : firstOk (m :: ms) d = (run m d).val? := by
  rw [firstOk, h]; cases (run m d).val? <;> rfl

theorem val_byTypeTail (others d r) : (byTypeTail others d r).val? = r.val? := by cases r <;> rfl

theorem runByType_val : ∀ (rest all : List (JClass × Meth)) (c : JClass) (d : Py),
    ByTypeSoundAt rest d → (rest.map (·.1)).Nodup → d.jclass? = some c →
    (runByType rest all c d).val? = firstOk (rest.map (·.2)) d
  | [], all, c, d, _, _, _ => by
    rw [runByType]; rfl
  | (c', m) :: rest, all, c, d, hs, hn, hd => by
    rw [runByType, List.map_cons]
    rw [List.map_cons, List.nodup_cons] at hn
    have hs' : ByTypeSoundAt rest d := fun q hq => hs q (List.mem_cons_of_mem _ hq)
    by_cases hcc : c' = c
    · -- the entry of the datum's class decides: no later entry has that class
      subst hcc
      rw [if_pos rfl, val_byTypeTail, firstOk_cons_of_rest (firstOk_none_of_class hs' hd fun p hp heq =>
        hn.1 (heq ▸ List.mem_map_of_mem (f := (·.1)) hp))]
    · rw [if_neg hcc, firstOk_cons_rej (val?_none_of_class (hs (c', m) (List.mem_cons_self ..)) hd hcc)]
      exact runByType_val rest all c d hs' hn.2 hd

/-- **C13 (dispatch by JSON type).** When every alternative accepts only data of its own class and the
    classes are pairwise distinct, `UnionByTypeMethod` returns exactly the value of the first accepting
    alternative, and none when there is none — for every datum of a JSON class. -/
theorem C13_byType_at (tbl : List (JClass × Meth)) (d : Py) (c : JClass)
    (hs : ByTypeSoundAt tbl d) (hn : (tbl.map (·.1)).Nodup) (hd : d.jclass? = some c) :
    (run (.unionByType tbl) d).val? = firstOk (tbl.map (·.2)) d := by
  rw [run]
  simp only [hd]
  exact runByType_val tbl tbl c d hs hn hd

theorem C13_byType (tbl : List (JClass × Meth)) (d : Py) (c : JClass)
    (hs : ByTypeSound tbl) (hn : (tbl.map (·.1)).Nodup) (hd : d.jclass? = some c) :
    (run (.unionByType tbl) d).val? = firstOk (tbl.map (·.2)) d :=
  C13_byType_at tbl d c (hs.at d) hn hd

/-- the by-type shortcut and the sequential method agree (when no alternative crashes) -/
theorem C13_byType_eq_sequential (tbl : List (JClass × Meth)) (d : Py) (c : JClass)
    (hs : ByTypeSound tbl) (hn : (tbl.map (·.1)).Nodup) (hd : d.jclass? = some c)
    (hc : ∀ m ∈ tbl.map (·.2), (run m d).isCrash = false) :
    (run (.unionByType tbl) d).val? = (run (.union (tbl.map (·.2))) d).val? := by
  rw [C13_byType tbl d c hs hn hd, run, C13_sequential _ d Option.none hc]

theorem val_optionalTail (d r) : (optionalTail d r).val? = r.val? := by cases r <;> rfl

/-- **C13 (`OptionalMethod`).** `if data is None: return None` skips the value method, so the shortcut equals try-each
    (`T` first) provided that method, on `None`, returns `None` or nothing (`hnull`) -/
theorem C13_optional (m : Meth) (d : Py)
    (hnull : d.isNull = true → (run m d).val? = some .null ∨ (run m d).val? = Option.none) :
    (run (.optional m) d).val? = firstOk [m, .none] d := by
  have hnone : (run .none d).val? = if d.isNull = true then some .null else Option.none := by
    rw [run]; cases d <;> rfl
  rw [run, firstOk, firstOk, firstOk, hnone]
  by_cases hd : d.isNull = true
  · rw [if_pos hd, if_pos hd]; rcases hnull hd with h | h <;> rw [h] <;> rfl
  · rw [if_neg hd, if_neg hd, val_optionalTail]; cases (run m d).val? <;> rfl

/-- the specification already says it: conforming data have the JSON class of the type's factory -/
theorem conforms_class (ap fbod : Bool) :
    ∀ cs t d, conforms ap fbod cs t d = true → ∀ c, t.factoryCls = some c → t.noFloat = true →
      d.jclass? = some c := by
  apply Ty.induct_cs
  case newtype | ann =>
    intro cs _ t ih d h c hc hf
    rw [conforms] at h; rw [Ty.factoryCls] at hc; rw [Ty.noFloat] at hf; exact ih d h c hc hf
  -- every other type with a class: a conforming datum has that class, by the first test of the specification
  case float => intro _ _ _ _ _ hf; cases hf
  all_goals
    intros; rename_i d h c hc _
    cases hc <;> (rw [conforms] at h; cases d <;> first | rfl | cases h)

/-- every compiled alternative in the C01 scope other than `float` is by-type sound -/
theorem compile_byTypeSound (o : DOpts) (ho : OptsOk o) (cs : Constraints) (t : Ty) (c : JClass)
    (ht : t.acc = true) (hc : t.factoryCls = some c) (hf : t.noFloat = true)
    (d : Py) (hd : d.wf = true) (v : Val) (h : run (compile o cs t) d = .ok v) :
    d.jclass? = some c := by
  have hacc := (accepts_iff_conforms o ho).1 cs t ht d hd
  rw [h] at hacc
  exact conforms_class _ _ cs t d hacc.symm c hc hf

/-- the hypothesis is needed: `float` accepts an `int` datum, the table is keyed by exact class (row 3) -/
theorem C13_byType_unsound_float :
    (run (.unionByType [(.float, .float false), (.str, .str)]) (.int 1)).val?.isSome = false
    ∧ (firstOk [.float false, .str] (.int 1)).isSome = true := by decide +kernel

end Api
