import Apimodel.DeserLemmas
import Apimodel.Scopes
/-!
# C01 (acceptance): the compiled method accepts exactly the conforming data
-/
namespace Api

/-! ### what each method accepts, in terms of what its parts accept -/
theorem isOk_runNone (d) : (runNone d).isOk = d.isNull := by cases d <;> rfl
theorem isOk_runBool (d) : (runBool d).isOk = d.isBool := by cases d <;> rfl
theorem isOk_runInt (c d) : (runInt c d).isOk = intOk c d := by
  fun_cases runInt c d
  · exact isOk_constrained _ _
  · rw [intOk]; rfl; assumption
theorem isOk_runStr (c d) : (runStr c d).isOk = strOk c d := by
  fun_cases runStr c d
  · exact isOk_constrained _ _
  · rw [strOk]; rfl; assumption
theorem isOk_intAsFloat (c i) : (intAsFloat c i).isOk = intAsFloatOk c i := by
  unfold intAsFloat intAsFloatOk
  cases intToFlt i <;> first | exact isOk_constrained _ _ | rfl
/-- repaired `FloatMethod` (`bool` rejected) -/
theorem isOk_runFloat (c d) : (runFloat false c d).isOk = floatOk c d := by
  cases d <;> first | exact isOk_constrained _ _ | exact isOk_intAsFloat _ _ | rfl
theorem isOk_runAny (c d) : (runAny c d).isOk = anyOk c d := by
  cases d <;> try first | exact isOk_constrained _ _ | rfl
  case list xs => unfold runAny anyOk; cases h : c.listErrors xs <;> simp [h]

theorem isOk_finish (own acc) (mk : List Val → Outcome Val) (hmk : ∀ vs, (mk vs).isOk = true) :
    (finish own acc mk).isOk = (own == some [] && (acc.crash.isNone && acc.errs.isEmpty)) := by
  unfold finish
  cases acc.crash with
  | some c => simp
  | none =>
    cases own with
    | none => rfl
    | some rs => cases rs <;> cases acc.errs <;> simp [hmk]

theorem isOk_listSel (o c m d) : (run (listSel o c m) d).isOk = listOk c d (fun x => (run m x).isOk) := by
  have key (mk : List Val → Outcome Val) (hmk : ∀ vs, (mk vs).isOk = true) :
      (onList d fun xs => finish (c.listErrors xs) (collect (fun x => run m x) 0 xs) mk).isOk
        = listOk c d fun x => (run m x).isOk := by
    cases d <;> try rfl
    case list xs => simp only [onList, listOk, isOk_finish _ _ _ hmk, collect_eq_loop, loopAcc_clean]
  unfold listSel; split <;> (simp only [run]; exact key _ fun _ => rfl)

theorem isOk_mapVal_tuple (r : Outcome Val) : (mapVal r listToTuple).isOk = r.isOk := by
  fun_cases mapVal r listToTuple
  · next v => fun_cases listToTuple v <;> rfl
  · rfl

def zipOkM (ms : List Meth) (xs : List Py) : Bool := (ms.zip xs).all fun mx => (run mx.1 mx.2).isOk

theorem isOk_tuple (c ms d) :
    (run (.tuple false c ms) d).isOk = tupleOk c d ms.length (fun xs => zipOkM ms xs) := by
  simp only [run]
  cases d <;> try rfl
  case list xs =>
    simp only [onList, tupleBody, tupleOk]
    by_cases h1 : xs.length < ms.length
    · simp [h1]; omega
    · by_cases h2 : xs.length > ms.length
      · simp [h1, h2]; omega
      · rw [if_neg h1, if_neg h2, isOk_finish _ _ _ (fun _ => rfl)]
        simp only [Bool.false_eq_true, if_false, runTuple_eq_loop, loopAcc_clean]
        simp [zipOkM, show xs.length = ms.length by omega]

theorem isOk_finishMap (own acc v) :
    (finishMap own acc v).isOk = (own.isEmpty && (acc.crash.isNone && acc.errs.isEmpty)) := by
  rw [finishMap_eq_finish, isOk_finish _ _ _ fun _ => rfl]; cases own <;> rfl

theorem isOk_onDict_badcases {d : Py} {k} (h : ∀ kvs, d ≠ .dict kvs) : (onDict d k).isOk = false := by
  cases d <;> first | rfl | exact absurd rfl (h _)

theorem isOk_mappingSel (o c km vm d) : (run (mappingSel o c km vm) d).isOk
    = dictOk c d (fun kvs => kvs.all (fun kv => (run km (.str kv.1)).isOk && (run vm kv.2).isOk)) := by
  have key (kf : Bool) (v : List (String × Py) → Val) :
      (onDict d fun kvs => finishMap (c.dictErrors kvs.length)
          (collectItems kf (fun x => run km x) (fun x => run vm x) kvs) (v kvs)).isOk
        = dictOk c d (fun kvs => kvs.all (fun kv => (run km (.str kv.1)).isOk && (run vm kv.2).isOk)) := by
    cases d <;> try rfl
    case dict kvs => simp only [onDict, dictOk, isOk_finishMap, collectItems_clean]
  unfold mappingSel; split <;> (simp only [run]; exact key _ _)

theorem isOk_optionalTail (d r) : (optionalTail d r).isOk = r.isOk := by cases r <;> rfl

theorem isOk_optional (m d) : (run (.optional m) d).isOk = (d.isNull || (run m d).isOk) := by
  simp only [run]; cases d.isNull <;> simp [isOk_optionalTail]

def presentCount (fs : List (FieldInfo × Meth)) (kvs : List (String × Py)) : Nat :=
  (fs.filter (fun fm => (lookupKey kvs fm.1.alias).isSome)).length

def fieldOk0 (req : Bool) (o : Option Py) (p : Py → Bool) : Bool :=
  match o with
  | some x => p x
  | Option.none => !req

-- `conformsF` (at `fbod = false`) with the field methods in place of `conforms`: `fieldsOkM_eq_conformsF`
def fieldsOkM (fs : List (FieldInfo × Meth)) (kvs : List (String × Py)) : Bool :=
  fs.all (fun fm => fieldOk0 fm.1.required (lookupKey kvs fm.1.alias) (fun x => (run fm.2 x).isOk))

theorem fieldsOkM_cons (f m fs kvs) : fieldsOkM ((f, m) :: fs) kvs
    = (fieldOk0 f.required (lookupKey kvs f.alias) (fun x => (run m x).isOk) && fieldsOkM fs kvs) := by
  simp [fieldsOkM]

theorem presentCount_cons (f m fs kvs) : presentCount ((f, m) :: fs) kvs
    = (if (lookupKey kvs f.alias).isSome then 1 else 0) + presentCount fs kvs := by
  unfold presentCount
  rw [List.filter_cons]
  split <;> simp <;> omega

theorem runFields_clean {fs : List (FieldInfo × Meth)} (hnf : NoFbod fs) (u kvs) :
    ((runFields u fs kvs).crash.isNone && (runFields u fs kvs).errs.isEmpty) = fieldsOkM fs kvs
    ∧ ((runFields u fs kvs).crash = Option.none → (runFields u fs kvs).count = presentCount fs kvs) := by
  induction fs with
  | nil => exact ⟨rfl, fun _ => rfl⟩
  | cons fm fs ih =>
    obtain ⟨f, m⟩ := fm
    have hfb : f.fbod = false := hnf (f, m) (List.mem_cons_self ..)
    obtain ⟨ih1, ih2⟩ := ih (fun x hx => hnf x (List.mem_cons_of_mem _ hx))
    rw [runFields_cons, fieldsOkM_cons, presentCount_cons, ← ih1, hfb, Bool.and_false]
    -- absent and not required, or present and accepted: the errors are kept; otherwise one is recorded
    cases hl : lookupKey kvs f.alias with
    | none => cases hreq : f.required <;> simp [stepField, fieldOk0, hreq, setChild_ne_nil] <;> exact ih2
    | some x =>
      cases hr : run m x <;> simp [stepField, fieldOk0, hr, setChild_ne_nil]
      all_goals intro hc; rw [ih2 hc]; omega

def keysOf (kvs : List (String × Py)) : List String := kvs.map (·.1)

theorem keysK_eq : ∀ kvs, keysK kvs = keysOf kvs
  | [] => by rw [keysK]; rfl
  | (k, v) :: kvs => by rw [keysK, keysK_eq kvs]; rfl

theorem lookupKey_isSome (kvs : List (String × Py)) (a : String) :
    (lookupKey kvs a).isSome = (keysOf kvs).contains a := by
  unfold lookupKey keysOf
  rw [Option.isSome_map, Bool.eq_iff_iff, List.find?_isSome, List.contains_iff_mem, List.mem_map]
  exact ⟨fun ⟨kv, h, he⟩ => ⟨kv, h, beq_iff_eq.1 he⟩, fun ⟨kv, h, he⟩ => ⟨kv, h, beq_iff_eq.2 he⟩⟩

theorem inter_length_comm {l1 l2 : List String} (h1 : l1.Nodup) (h2 : l2.Nodup) :
    (l1.filter (fun a => l2.contains a)).length = (l2.filter (fun a => l1.contains a)).length := by
  apply List.Perm.length_eq
  rw [List.perm_ext_iff_of_nodup (List.Pairwise.filter _ h1) (List.Pairwise.filter _ h2)]
  intro a
  simp only [List.mem_filter, List.contains_eq_mem, decide_eq_true_eq]
  exact ⟨fun h => ⟨h.2, h.1⟩, fun h => ⟨h.2, h.1⟩⟩

theorem presentCount_eq (fs : List (FieldInfo × Meth)) (kvs) :
    presentCount fs kvs = ((aliasesM fs).filter (fun a => (keysOf kvs).contains a)).length := by
  rw [aliasesM_eq_map, List.filter_map, List.length_map]
  simp only [presentCount, lookupKey_isSome]; rfl

theorem unexpectedKeys_eq (aliases : List String) (kvs : List (String × Py)) :
    unexpectedKeys aliases kvs = (keysOf kvs).filter (fun k => !aliases.contains k) := by
  rw [keysOf, List.filter_map]; rfl

/-- `len(data) == fields_count` exactly when no key is unexpected (dict keys and aliases are distinct) -/
theorem count_eq_iff {fs : List (FieldInfo × Meth)} {kvs : List (String × Py)}
    (hk : (keysOf kvs).Nodup) (ha : (aliasesM fs).Nodup) :
    kvs.length = presentCount fs kvs ↔ unexpectedKeys (aliasesM fs) kvs = [] := by
  have h1 : kvs.length = (keysOf kvs).length := by simp [keysOf]
  have h2 := List.length_eq_countP_add_countP (fun k => (aliasesM fs).contains k) (l := keysOf kvs)
  simp only [List.countP_eq_length_filter, Bool.not_eq_true, Bool.decide_eq_false] at h2
  rw [presentCount_eq, inter_length_comm ha hk, ← List.length_eq_zero_iff, unexpectedKeys_eq]
  omega

theorem noUnexpected_eq (ap : Bool) (aliases : List String) (kvs : List (String × Py)) :
    noUnexpected ap aliases kvs = (ap || (unexpectedKeys aliases kvs).isEmpty) := by
  unfold noUnexpected unexpectedKeys
  rw [List.isEmpty_map, filter_isEmpty]; simp only [Bool.not_not]

theorem addDepMissing_isEmpty (ms : List (String × List String)) (errs : List (Key × Err)) :
    (addDepMissing ms errs).isEmpty = (ms.isEmpty && errs.isEmpty) :=
  foldl_setChild_isEmpty _ _ ms errs

theorem depMissing_isEmpty : ∀ (infos : List FieldInfo) (kvs : List (String × Py)),
    (depMissing infos kvs).isEmpty = depOk infos kvs
  | infos, kvs => by rw [depMissing_eq, List.isEmpty_map, filter_isEmpty]; rfl

/-- the unexpected-property pass of both object methods, entered when `len(data) != fields_count` unless `off`
    (`additional_properties`; for `SimpleObjectMethod`, a TypedDict: `isOk_finishSimple_obj`) -/
theorem unexpectedPass_isEmpty {fs : List (FieldInfo × Meth)} {kvs : List (String × Py)}
    (hk : (keysOf kvs).Nodup) (ha : (aliasesM fs).Nodup) (off : Bool) (errs : List (Key × Err)) :
    (if (kvs.length != presentCount fs kvs && !off) = true then addUnexpected (unexpectedKeys (aliasesM fs) kvs) errs
      else errs).isEmpty = (errs.isEmpty && (off || (unexpectedKeys (aliasesM fs) kvs).isEmpty)) := by
  cases off with
  | true => simp
  | false =>
    by_cases hlen : kvs.length = presentCount fs kvs
    · simp [hlen, (count_eq_iff hk ha).1 hlen]
    · simp [hlen, addUnexpected_isEmpty, Bool.and_comm]

theorem isOk_finishObj {ci infos own ap} {fs : List (FieldInfo × Meth)} {kvs : List (String × Py)}
    (hnf : NoFbod fs) (hk : (keysOf kvs).Nodup) (ha : (aliasesM fs).Nodup) (u : Bool) :
    (finishObj ci infos own ap (aliasesM fs) (runFields u fs kvs) kvs).isOk
      = (own.isEmpty && (fieldsOkM fs kvs && noUnexpected ap (aliasesM fs) kvs && depOk infos kvs)) := by
  obtain ⟨h1, h2⟩ := runFields_clean hnf u kvs
  rw [← h1, noUnexpected_eq]
  unfold finishObj
  cases hc : (runFields u fs kvs).crash with
  | some c => simp
  | none =>
    simp only [isOk_ite, Bool.decide_eq_true, addDepMissing_isEmpty, depMissing_isEmpty, h2 hc, unexpectedPass_isEmpty hk ha,
      Option.isNone_none, Bool.true_and]
    -- what is left is a Boolean identity in the five tests
    cases own.isEmpty <;> cases (runFields u fs kvs).errs.isEmpty <;> cases ap <;>
      cases (unexpectedKeys (aliasesM fs) kvs).isEmpty <;> cases depOk infos kvs <;> rfl

/-- as far as acceptance goes, `SimpleObjectMethod` ends like an `ObjectMethod` without constraints or
    `dependent_required`, additional properties being allowed exactly for a TypedDict -/
theorem isOk_finishSimple_obj (ci : ClassInfo) (infos aliases acc kvs) :
    (finishSimple ci infos aliases acc kvs).isOk = (finishObj ci [] [] (ci.kind == .typedDict) aliases acc kvs).isOk := by
  unfold finishSimple finishObj
  cases acc.crash with
  | some c => rfl
  | none => simp only [isOk_ite, depMissing, addDepMissing, List.foldl_nil, List.isEmpty_nil, Bool.and_true, bne]

theorem isOk_finishSimple {ci : ClassInfo} {infos} {fs : List (FieldInfo × Meth)} {kvs : List (String × Py)}
    (hnf : NoFbod fs) (hk : (keysOf kvs).Nodup) (ha : (aliasesM fs).Nodup) (u : Bool) :
    (finishSimple ci infos (aliasesM fs) (runFields u fs kvs) kvs).isOk
      = (fieldsOkM fs kvs && noUnexpected (ci.kind == .typedDict) (aliasesM fs) kvs) := by
  rw [isOk_finishSimple_obj, isOk_finishObj hnf hk ha]; simp [depOk]

theorem isOk_objSel {o : DOpts} {ci c} {ms : List (FieldInfo × Meth)} (hnf : NoFbod ms)
    (ha : (aliasesM ms).Nodup) (d : Py) (hk : ∀ kvs, d = .dict kvs → (keysOf kvs).Nodup) :
    (run (objSel o ci c ms) d).isOk
      = dictOk c d (fun kvs => fieldsOkM ms kvs && noUnexpected o.additionalProperties (aliasesM ms) kvs
                                && depOk (infosM ms) kvs) := by
  unfold objSel
  simp only
  split
  · next hcond =>
    simp only [Bool.and_eq_true, Bool.not_eq_true', beq_iff_eq] at hcond
    obtain ⟨⟨⟨hc, htd⟩, _⟩, hsimple⟩ := hcond
    simp only [run]
    fun_cases dictOk c d _
    · simp only [onDict]
      rw [isOk_finishSimple hnf (hk _ rfl) ha, dictErrors_nil hc, htd, depOk_of_noDeps (simpleOk_noDeps hsimple)]
      simp
    · exact isOk_onDict_badcases ‹_›
  · simp only [run]
    fun_cases dictOk c d _
    · simp only [onDict]; rw [isOk_finishObj hnf (hk _ rfl) ha]
    · exact isOk_onDict_badcases ‹_›

theorem listOk_congr {c d} {p q : Py → Bool} (h : ∀ x, p x = q x) : listOk c d p = listOk c d q := by
  rw [funext h]

/-- the options the theorems cover: no global `fall_back_on_default`, and both `Quirks` off (`TupleMethod` and
    `FloatMethod` as repaired) -/
structure OptsOk (o : DOpts) : Prop where
  fbod : o.fallBackOnDefault = false
  quirks : o.quirks = Quirks.repaired

theorem OptsOk.tupleDropsErrors {o : DOpts} (ho : OptsOk o) : o.quirks.tupleDropsErrors = false := by rw [ho.quirks]; rfl

/-! ### acceptance = conformance, on a set of data closed under taking parts

The acceptance theorems differ in the data they speak about (distinct keys; distinct keys and no crash-prone leaf)
and in what they know about unions; everything else is said once, for any such set `D`. -/

structure DataDom (D : Py → Prop) : Prop where
  list : ∀ {xs}, D (.list xs) → ∀ x ∈ xs, D x
  dict : ∀ {kvs}, D (.dict kvs) → (keysOf kvs).Nodup ∧ ∀ kv ∈ kvs, D kv.2
  str : ∀ s, D (.str s)  -- a mapping method hands each key to the key method as `.str k`

theorem wf_dom : DataDom (fun d => d.wf = true) where
  list h := by rw [Py.wf] at h; exact wfL_iff.1 h
  dict h := by
    rw [Py.wf, Bool.and_eq_true, keysK_eq] at h
    exact ⟨nodup_of_distinctStrs h.1, wfK_iff.1 h.2⟩
  str _ := rfl

/-- `Accepts` (below) and `AcceptsG` (`AcceptUnionThm`) are its instances at `wf` and at `good`, by unfolding: the proofs
    pass from one form to the other without saying so -/
def AcceptsOn (D : Py → Prop) (o : DOpts) (cs : Constraints) (m : Meth) (t : Ty) : Prop :=
  ∀ d, D d → (run m d).isOk = conforms o.additionalProperties false cs t d

theorem conformsZip_eq_all (ap fbod : Bool) : ∀ ts xs,
    conformsZip ap fbod ts xs = (ts.zip xs).all fun tx => conforms ap fbod {} tx.1 tx.2
  | [], _ => by rw [conformsZip]; rfl; intros; contradiction
  | _ :: _, [] => by rw [conformsZip]; rfl; intros; contradiction
  | t :: ts, x :: xs => by rw [conformsZip, conformsZip_eq_all ap fbod ts xs]; rfl

theorem infosM_map (g : Ty → Meth) (fs : List (FieldInfo × Ty)) : infosM (fs.map fun ft => (ft.1, g ft.2)) = infosOf fs := by
  rw [infosM_eq_map, List.map_map]; rfl
theorem aliasesM_map (g : Ty → Meth) (fs : List (FieldInfo × Ty)) : aliasesM (fs.map fun ft => (ft.1, g ft.2)) = aliasesOf fs := by
  rw [aliasesM_eq_map, aliasesOf_eq_map, List.map_map]; rfl

theorem fieldsOkM_eq_conformsF {D : Py → Prop} {o : DOpts} {g : Ty → Meth} {kvs : List (String × Py)} (hkvs : ∀ kv ∈ kvs, D kv.2) :
    ∀ (fs : List (FieldInfo × Ty)), (∀ ft ∈ fs, ft.1.fbod = false ∧ AcceptsOn D o {} (g ft.2) ft.2) →
    fieldsOkM (fs.map fun ft => (ft.1, g ft.2)) kvs = conformsF o.additionalProperties false fs kvs
  | [], _ => by rw [conformsF]; rfl
  | (f, t) :: fs, h => by
    obtain ⟨⟨hfb, hacc⟩, hrest⟩ := List.forall_mem_cons.1 h
    simp only at hfb hacc
    rw [List.map_cons, fieldsOkM_cons, conformsF, fieldsOkM_eq_conformsF hkvs fs hrest]
    congr 1
    unfold fieldOk0 fieldOk
    cases hl : lookupKey kvs f.alias with
    | none => rfl
    | some x =>
      simp only [hacc _ (hkvs _ (lookupKey_mem hl)), hfb, Bool.or_false, Bool.and_false]

section
variable {D : Py → Prop} (hD : DataDom D) {o : DOpts}
include hD

theorem accepts_listSel {cs t m} (h : AcceptsOn D o {} m t) (d) (hd : D d) :
    (run (listSel o cs m) d).isOk = listOk cs d (fun x => conforms o.additionalProperties false {} t x) := by
  rw [isOk_listSel]
  exact listOk_congr_mem fun xs hxs x hx => h x (hD.list (hxs ▸ hd) x hx)

theorem accepts_tuple {cs ts} (h : ∀ t ∈ ts, AcceptsOn D o {} (compile o {} t) t) (d) (hd : D d) :
    (run (.tuple false cs (compileL o {} ts)) d).isOk
      = tupleOk cs d ts.length (fun xs => conformsZip o.additionalProperties false ts xs) := by
  rw [isOk_tuple, compileL_eq_map, List.length_map]
  refine tupleOk_congr fun xs hxs => ?_
  simp only [zipOkM, conformsZip_eq_all, List.zip_map_left, List.all_map]
  exact all_congr_mem fun tx htx => h tx.1 (List.of_mem_zip htx).1 tx.2 (hD.list (hxs ▸ hd) _ (List.of_mem_zip htx).2)

theorem accepts_mappingSel {cs k v mk mv} (hk : AcceptsOn D o {} mk k) (hv : AcceptsOn D o {} mv v) (d) (hd : D d) :
    (run (mappingSel o cs mk mv) d).isOk = dictOk cs d (fun kvs => kvs.all fun kv =>
      conforms o.additionalProperties false {} k (.str kv.1) && conforms o.additionalProperties false {} v kv.2) := by
  rw [isOk_mappingSel]
  refine dictOk_congr fun kvs hkvs => all_congr_mem fun kv hkv => ?_
  rw [hk _ (hD.str _), hv _ ((hD.dict (hkvs ▸ hd)).2 kv hkv)]

theorem accepts_objSel {g : Ty → Meth} {cs ci} {fs : List (FieldInfo × Ty)}
    (h : ∀ ft ∈ fs, ft.1.fbod = false ∧ AcceptsOn D o {} (g ft.2) ft.2) (hal : (aliasesOf fs).Nodup) (d) (hd : D d) :
    (run (objSel o ci cs (fs.map fun ft => (ft.1, g ft.2))) d).isOk
      = dictOk cs d (fun kvs => conformsF o.additionalProperties false fs kvs
                                && noUnexpected o.additionalProperties (aliasesOf fs) kvs && depOk (infosOf fs) kvs) := by
  have hnf : NoFbod (fs.map fun ft => (ft.1, g ft.2)) := List.forall_mem_map.2 fun ft hft => (h ft hft).1
  rw [isOk_objSel hnf (aliasesM_map g fs ▸ hal) d fun kvs hkvs => (hD.dict (hkvs ▸ hd)).1, aliasesM_map, infosM_map]
  exact dictOk_congr fun kvs hkvs => by rw [fieldsOkM_eq_conformsF (hD.dict (hkvs ▸ hd)).2 fs h]
end

theorem lastMatch_isSome (d : Py) : ∀ (vs : List Lit) (i : Nat) (acc : Option (Nat × Lit)),
    (runLiteral.lastMatch d vs i acc).isSome = (acc.isSome || vs.any (litMatches d))
  | [], _, acc => by simp [runLiteral.lastMatch]
  | l :: ls, i, acc => by
    rw [runLiteral.lastMatch, lastMatch_isSome d ls]
    cases h : litMatches d l <;> simp [h]

theorem isOk_runLiteral (vs en d) :
    (runLiteral vs en d).isOk = (d.hashable && vs.any (litMatches d)) := by
  unfold runLiteral
  cases hh : d.hashable
  · rfl
  · have hm := lastMatch_isSome d vs 0 Option.none
    simp only [Bool.not_true, Bool.false_eq_true, if_false, Bool.true_and]
    cases hl : runLiteral.lastMatch d vs 0 Option.none with
    | none =>
      rw [hl] at hm; simp only [Option.isSome_none, Bool.false_or] at hm
      rw [← hm]; cases d <;> rfl
    | some p =>
      rw [hl] at hm; simp only [Option.isSome_some, Option.isSome_none, Bool.false_or] at hm
      rw [← hm]; cases en <;> rfl

theorem accOpt_cases {ts : List Ty} (h : accOpt ts = true) :
    ∃ t, ts = [t, .null] ∧ t.acc = true ∧ (t.factoryCls != some JClass.null) = true := by
  unfold accOpt at h
  split at h
  · next t =>
    rw [Bool.and_eq_true] at h
    exact ⟨t, rfl, h.1, h.2⟩
  · cases h

theorem unionSel_optional {t : Ty} (h : (t.factoryCls != some JClass.null) = true) (m n : Meth) :
    unionSel (clsL [t, .null]) (anyNull [t, .null]) [m, n] = .optional m := by
  rw [clsL_eq_map, anyNull_eq_any]
  unfold unionSel; simp [Ty.isNull, h]

theorem unionSelC_optional {t : Ty} (h : (t.factoryCls != some JClass.null) = true) (env : CoerceEnv) (m n : Meth) :
    unionSelC env (clsL [t, .null]) (anyNull [t, .null]) [m, n] = .optionalC env m := by
  rw [clsL_eq_map, anyNull_eq_any]
  unfold unionSelC; simp [Ty.isNull, h]

theorem acc_accU_ty (t : Ty) : t.acc = true → t.accU = true := by
  apply Ty.induct_cs (P := fun _ t => t.acc = true → t.accU = true) (cs := {})
  case list | vtuple => intro _ t ih h; simp only [Ty.acc] at h; rw [Ty.accU]; exact ih h
  case newtype | ann => intro _ _ t ih h; simp only [Ty.acc] at h; rw [Ty.accU]; exact ih h
  case set | frozenset => intro _ t _ h; simp only [Ty.acc] at h; cases h
  case tuple => intro _ ts ih h; simp only [Ty.acc, accL_iff] at h; rw [Ty.accU, accUL_iff]; exact fun t ht => ih t ht (h t ht)
  case mapping => intro _ k v ihk ihv h; simp only [Ty.acc, Bool.and_eq_true] at h; rw [Ty.accU, ihk h.1, ihv h.2]; rfl
  case union =>
    intro _ ts ih h; simp only [Ty.acc] at h
    obtain ⟨t, rfl, hacc, hcls⟩ := accOpt_cases h
    have hn : t.isNull = false := by fun_cases Ty.isNull t <;> first | rfl | cases hcls
    simp [Ty.accU, accUL, ih t (List.mem_cons_self ..) hacc, sideOk, hcls, hn, show Ty.null.isNull = true from rfl]
  case obj =>
    intro _ ci fs ih h; simp only [Ty.acc, Bool.and_eq_true, accF_iff] at h
    rw [Ty.accU, h.1, accUF_iff.2 fun ft hft => ⟨(h.2 ft hft).1, ih ft hft (h.2 ft hft).2⟩]; rfl
  all_goals intros; rfl

theorem acc_accU :
    (∀ t : Ty, t.acc = true → t.accU = true) ∧
    (∀ fs : List (FieldInfo × Ty), accF fs = true → accUF fs = true) ∧
    (∀ ts : List Ty, accOpt ts = true → (accUL ts && ts.all sideOk && !ts.all Ty.isNull) = true) ∧
    (∀ ts : List Ty, accL ts = true → accUL ts = true) := by
  refine ⟨acc_accU_ty, fun fs h => ?_, fun ts h => ?_, fun ts h => ?_⟩
  · exact accUF_iff.2 fun ft hft => ⟨(accF_iff.1 h ft hft).1, acc_accU_ty _ (accF_iff.1 h ft hft).2⟩
  · have := acc_accU_ty (.union ts) (by rw [Ty.acc]; exact h)
    rwa [Ty.accU] at this
  · exact accUL_iff.2 fun t ht => acc_accU_ty t (accL_iff.1 h t ht)

def Accepts (o : DOpts) (cs : Constraints) (m : Meth) (t : Ty) : Prop :=
  ∀ d, d.wf = true → (run m d).isOk = conforms o.additionalProperties false cs t d

abbrev AcceptsL (o : DOpts) (cs : Constraints) := All2 (Accepts o cs)
abbrev AcceptsF (o : DOpts) :=
  All2 (fun (fm : FieldInfo × Meth) (ft : FieldInfo × Ty) => fm.1 = ft.1 ∧ Accepts o {} fm.2 ft.2)

theorem accepts_compile (o : DOpts) (ho : OptsOk o) : ∀ cs t, t.acc = true → Accepts o cs (compile o cs t) t := by
  apply Ty.induct_cs
  case null => intro cs _ d _; simp only [compile, run, conforms]; exact isOk_runNone d
  case bool => intro cs _ d _; simp only [compile, run, conforms]; exact isOk_runBool d
  case int => intro cs _ d _; rw [run_compile_int, conforms]; exact isOk_runInt cs d
  case float => intro cs _ d _; rw [run_compile_float, conforms, ho.quirks]; exact isOk_runFloat cs d
  case str => intro cs _ d _; rw [run_compile_str, conforms]; exact isOk_runStr cs d
  case any => intro cs _ d _; simp only [compile, run, conforms]; exact isOk_runAny cs d
  case literal => intro cs vs _ d _; simp only [compile, run, conforms]; exact isOk_runLiteral vs _ d
  case enum => intro cs c ms _ d _; simp only [compile, run, conforms, isOk_runLiteral, List.any_map]; rfl
  case list =>
    intro cs t ih hs d hd; simp only [Ty.acc] at hs
    simp only [compile, conforms]; exact accepts_listSel wf_dom (ih hs) d hd
  case vtuple =>
    intro cs t ih hs d hd; simp only [Ty.acc] at hs
    simp only [compile, run, isOk_mapVal_tuple, conforms]; exact accepts_listSel wf_dom (ih hs) d hd
  case set | frozenset => intro cs t _ hs; simp only [Ty.acc] at hs; cases hs
  case tuple =>
    intro cs ts ih hs d hd; simp only [Ty.acc, accL_iff] at hs
    simp only [compile, ho.tupleDropsErrors, conforms]; exact accepts_tuple wf_dom (fun t ht => ih t ht (hs t ht)) d hd
  case mapping =>
    intro cs k v ihk ihv hs d hd; simp only [Ty.acc, Bool.and_eq_true] at hs
    simp only [compile, conforms]; exact accepts_mappingSel wf_dom (ihk hs.1) (ihv hs.2) d hd
  case union =>
    intro cs ts ih hs d hd; simp only [Ty.acc] at hs
    obtain ⟨t, rfl, hacc, hcls⟩ := accOpt_cases hs
    simp only [compile, compileL, unionSel_optional hcls, isOk_optional, ih t (List.mem_cons_self ..) hacc d hd]
    simp only [conforms, conformsAny, Bool.false_or, Bool.or_comm]
  case newtype => intro cs n t ih hs d hd; simp only [Ty.acc] at hs; simp only [compile, conforms]; exact ih hs d hd
  case ann => intro cs c t ih hs d hd; simp only [Ty.acc] at hs; simp only [compile, conforms]; exact ih hs d hd
  case obj =>
    intro cs ci fs ih hs d hd
    simp only [Ty.acc, Bool.and_eq_true, accF_iff] at hs
    simp only [compile, conforms, compileF_eq_map' ho.fbod]
    exact accepts_objSel wf_dom (fun ft hft => ⟨(hs.2 ft hft).1, ih ft hft (hs.2 ft hft).2⟩)
      (nodup_of_distinctStrs hs.1) d hd

/-- **C01 (acceptance).** For every type in `Ty.acc` (a union is only `Optional[T]`), every inherited constraint set, every
    value of `additional_properties`, `no_copy` and `override_dataclass_constructors`, and every datum
    with distinct object keys, the compiled method returns a value exactly when the datum conforms. -/
theorem accepts_iff_conforms (o : DOpts) (ho : OptsOk o) :
    (∀ cs t, t.acc = true → Accepts o cs (compile o cs t) t) ∧
    (∀ fs, accF fs = true → AcceptsF o (compileF o fs) fs) ∧
    (∀ cs ts, accL ts = true → AcceptsL o cs (compileL o cs ts) ts) := by
  refine ⟨accepts_compile o ho, fun fs hs => ?_, fun cs ts hs => ?_⟩
  · rw [compileF_eq_map' ho.fbod]
    exact All2.map_left fun ft hft => ⟨rfl, accepts_compile o ho {} ft.2 (accF_iff.1 hs ft hft).2⟩
  · rw [compileL_eq_map]
    exact All2.map_left fun t ht => accepts_compile o ho cs t (accL_iff.1 hs t ht)

theorem failureL_eq_none : ∀ {ms : List Meth}, failureL ms = Option.none ↔ ∀ m ∈ ms, m.failure? = Option.none
  | [] => by simp [failureL]
  | m :: ms => by
    rw [failureL, List.forall_mem_cons, ← failureL_eq_none]
    cases m.failure? <;> simp [Option.orElse]
theorem failureF_eq_none : ∀ {fs : List (FieldInfo × Meth)}, failureF fs = Option.none ↔ ∀ fm ∈ fs, fm.2.failure? = Option.none
  | [] => by simp [failureF]
  | (f, m) :: fs => by
    rw [failureF, List.forall_mem_cons, ← failureF_eq_none]
    cases m.failure? <;> simp [Option.orElse]
theorem failureT_eq_none : ∀ {tbl : List (JClass × Meth)}, failureT tbl = Option.none ↔ ∀ p ∈ tbl, p.2.failure? = Option.none
  | [] => by simp [failureT]
  | (c, m) :: tbl => by
    rw [failureT, List.forall_mem_cons, ← failureT_eq_none]
    cases m.failure? <;> simp [Option.orElse]

theorem failure_listSel (o c m) : (listSel o c m).failure? = m.failure? := by
  unfold listSel; split <;> rw [Meth.failure?]
theorem failure_mappingSel (o c k v) :
    (mappingSel o c k v).failure? = (k.failure?).orElse (fun _ => v.failure?) := by
  unfold mappingSel; split <;> rw [Meth.failure?]
theorem failure_objSel (o ci c fs) : (objSel o ci c fs).failure? = failureF fs := by
  unfold objSel; dsimp only; split <;> rw [Meth.failure?]

/-- some alternative is not of class `NoneType`: `next(...)` in `union()` finds it, whatever the methods zipped with
    the classes -/
theorem find_nonNull_zip : ∀ (ts : List Ty) (ms : List Meth), ms.length = ts.length → ts.all sideOk = true →
    ts.all Ty.isNull = false → (((clsL ts).zip ms).find? (fun p => p.1 != some JClass.null)).isSome = true
  | [], _, _, _, h => by simp at h
  | t :: ts, [], hl, _, _ => by simp at hl
  | t :: ts, m :: ms, hl, hs, hn => by
    rw [clsL, List.zip_cons_cons, List.find?_cons]
    rw [List.all_cons, Bool.and_eq_true] at hs
    cases hc : (t.factoryCls != some JClass.null) with
    | true => rfl
    | false =>
      simp only
      have ht : t.isNull = true := by
        have := hs.1; unfold sideOk at this; rw [hc, Bool.false_or] at this; exact this
      rw [List.all_cons, ht, Bool.true_and] at hn
      exact find_nonNull_zip ts ms (by simpa using hl) hs.2 hn

theorem find_nonNull (o : DOpts) (cs : Constraints) : ∀ ts : List Ty, ts.all sideOk = true → ts.all Ty.isNull = false →
    (((clsL ts).zip (compileL o cs ts)).find? (fun p => p.1 != some JClass.null)).isSome = true :=
  fun ts => find_nonNull_zip ts _ (compileL_length o cs ts)

theorem failure_unionSel {clss : List (Option JClass)} {hasNone : Bool} {ms : List Meth}
    (hfind : ((clss.zip ms).find? (fun p => p.1 != some JClass.null)).isSome = true)
    (h : ∀ m ∈ ms, m.failure? = Option.none) : (unionSel clss hasNone ms).failure? = Option.none := by
  unfold unionSel
  simp only
  split
  · split
    · next p m hf =>
      rw [Meth.failure?]
      exact h m (List.of_mem_zip (List.mem_of_find?_eq_some hf)).2
    · next hf => rw [hf] at hfind; cases hfind
  · split
    · rw [Meth.failure?, failureT_eq_none]; exact fun p hp => h p.2 (List.of_mem_zip hp).2
    · rw [Meth.failure?, failureL_eq_none]; exact h

theorem compile_noFail_ty (o : DOpts) : ∀ cs t, t.accU = true → (compile o cs t).failure? = Option.none := by
  apply Ty.induct_cs
  case int | float | str => intro cs _; simp only [compile]; split <;> rfl
  case list => intro cs t ih hs; simp only [Ty.accU] at hs; simp only [compile, failure_listSel]; exact ih hs
  case set | frozenset => intro cs t _ hs; simp only [Ty.accU] at hs; cases hs
  case vtuple => intro cs t ih hs; simp only [Ty.accU] at hs; simp only [compile, Meth.failure?, failure_listSel]; exact ih hs
  case tuple =>
    intro cs ts ih hs; simp only [Ty.accU, accUL_iff] at hs
    simp only [compile, Meth.failure?, failureL_eq_none, compileL_eq_map]
    exact List.forall_mem_map.2 fun t ht => ih t ht (hs t ht)
  case mapping =>
    intro cs k v ihk ihv hs; simp only [Ty.accU, Bool.and_eq_true] at hs
    simp only [compile, failure_mappingSel, ihk hs.1, ihv hs.2]; rfl
  case union =>
    intro cs ts ih hs
    obtain ⟨hs, hside, hnull⟩ := accU_union hs
    simp only [compile]
    refine failure_unionSel (find_nonNull o cs ts hside hnull) ?_
    rw [compileL_eq_map]; exact List.forall_mem_map.2 fun t ht => ih t ht (hs t ht)
  case newtype => intro cs n t ih hs; simp only [Ty.accU] at hs; simp only [compile]; exact ih hs
  case ann => intro cs c t ih hs; simp only [Ty.accU] at hs; simp only [compile]; exact ih hs
  case obj =>
    intro cs ci fs ih hs; simp only [Ty.accU, Bool.and_eq_true, accUF_iff] at hs
    simp only [compile, failure_objSel, failureF_eq_none, compileF_eq_map]
    exact List.forall_mem_map.2 fun ft hft => ih ft hft (hs.2 ft hft).2
  all_goals intros; simp only [compile]; rfl  -- the other leaves compile to a method without sub-method

theorem compile_noFailU (o : DOpts) :
    (∀ cs t, t.accU = true → (compile o cs t).failure? = Option.none) ∧
    (∀ fs, accUF fs = true → failureF (compileF o fs) = Option.none) ∧
    (∀ cs ts, accUL ts = true → failureL (compileL o cs ts) = Option.none) := by
  refine ⟨compile_noFail_ty o, fun fs hs => ?_, fun cs ts hs => ?_⟩
  · rw [failureF_eq_none, compileF_eq_map]
    exact List.forall_mem_map.2 fun ft hft => compile_noFail_ty o {} ft.2 (accUF_iff.1 hs ft hft).2
  · rw [failureL_eq_none, compileL_eq_map]
    exact List.forall_mem_map.2 fun t ht => compile_noFail_ty o cs t (accUL_iff.1 hs t ht)

theorem compile_noFail (o : DOpts) :
    (∀ cs t, t.acc = true → (compile o cs t).failure? = Option.none) ∧
    (∀ fs, accF fs = true → failureF (compileF o fs) = Option.none) ∧
    (∀ cs ts, accL ts = true → failureL (compileL o cs ts) = Option.none) :=
  ⟨fun cs t ha => (compile_noFailU o).1 cs t (acc_accU.1 t ha),
   fun fs ha => (compile_noFailU o).2.1 fs (acc_accU.2.1 fs ha),
   fun cs ts ha => (compile_noFailU o).2.2 cs ts (acc_accU.2.2.2 ts ha)⟩

/-- **C01 (acceptance), entry point.** `deserialize(T, data)` returns a value iff `data` conforms to `T`,
    for every `T` in scope, every inherited constraint set, `additional_properties`, `no_copy`,
    `override_dataclass_constructors`, and every datum with distinct object keys. -/
theorem C01_accept (o : DOpts) (ho : OptsOk o) (cs : Constraints) (t : Ty) (ht : t.acc = true)
    (d : Py) (hd : d.wf = true) :
    (deserialize o cs t d).isOk = conforms o.additionalProperties false cs t d := by
  unfold deserialize
  simp only [(compile_noFail o).1 cs t ht]
  exact (accepts_iff_conforms o ho).1 cs t ht d hd
/-! ### the hypotheses are satisfiable, and both verdicts occur -/

def exTy : Ty :=
  .obj { name := "A" }
    [({ name := "xs", alias := "xs", required := true }, .list (.union [.int, .null])),
     ({ name := "m", alias := "mm", required := false, dflt := some .emptyDict },
        .mapping .str (.tuple [.float, .literal [.str "a", .int 1]]))]

def exOpts : DOpts := { quirks := Quirks.repaired }

example : OptsOk exOpts := ⟨rfl, rfl⟩
example : exTy.acc = true := by decide +kernel
example : (Py.dict [("xs", .list [.int 1, .null]), ("mm", .dict [("k", .list [.int 2, .int 1])])]).wf = true := by
  decide +kernel
example : conforms false false {} exTy
    (.dict [("xs", .list [.int 1, .null]), ("mm", .dict [("k", .list [.int 2, .int 1])])]) = true := by
  decide +kernel
example : conforms false false {} exTy
    (.dict [("xs", .list [.int 1, .null]), ("mm", .dict [("k", .list [.bool true, .int 1])])]) = false := by
  decide +kernel

end Api
