import Apimodel.CoerceUnionThm
/-! Literals under coercion (C14, C03; row 80): which value is returned does not depend on the order in which the classes of the literal values are tried,
as long as the classes the datum can be coerced into a value through agree on the result - in particular when there is at most one such class.  (The
tuple `LiteralMethod.types` is made from a *set* of classes: its order is the interpreter's.) -/
namespace Api

def litHit (env : CoerceEnv) (vs : List Lit) (d : Py) (c : JClass) : Option Py :=
  match coerce env c d with
  | .ok d' => if (runLiteral.lastMatch d' vs 0 Option.none).isSome then some d' else Option.none
  | _ => Option.none

theorem tryLitClasses_eq (env : CoerceEnv) (vs en) {d : Py} (h : ∀ kvs, d ≠ .dictNS kvs) :
    ∀ cs, tryLitClasses env vs en d cs =
      match cs.findSome? (litHit env vs d) with
      | some d' => runLiteral vs en d'
      | Option.none => runLiteral vs en d
  | [] => by rw [tryLitClasses]; rfl
  | c :: cs => by
    rw [tryLitClasses, List.findSome?_cons, litHit, tryLitClasses_eq env vs en h cs]
    cases hc : coerce env c d with
    | ok d' =>
      cases hm : runLiteral.lastMatch d' vs 0 Option.none with
      | some p => simp only [hm, Option.isSome_some, ↓reduceIte]
      | none => simp only [hm, Option.isSome_none, Bool.false_eq_true, ↓reduceIte]
    | invalid e => rfl
    | crash x => have := isCrash_coerce env c d; rw [hc] at this; cases this

theorem tryLitClasses_perm (env : CoerceEnv) (vs en) {d : Py} (h : ∀ kvs, d ≠ .dictNS kvs) (cs1 cs2 : List JClass) (hp : cs1.Perm cs2)
    (agree : ∀ c1 c2 a b, c1 ∈ cs1 → c2 ∈ cs1 → litHit env vs d c1 = some a → litHit env vs d c2 = some b → runLiteral vs en a = runLiteral vs en b) :
    tryLitClasses env vs en d cs1 = tryLitClasses env vs en d cs2 := by
  rw [tryLitClasses_eq env vs en h, tryLitClasses_eq env vs en h]
  cases h1 : cs1.findSome? (litHit env vs d) <;> cases h2 : cs2.findSome? (litHit env vs d)
  · rfl
  · obtain ⟨c, hc, hb⟩ := List.exists_of_findSome?_eq_some h2
    rw [List.findSome?_eq_none_iff.1 h1 c (hp.mem_iff.2 hc)] at hb; cases hb
  · obtain ⟨c, hc, ha⟩ := List.exists_of_findSome?_eq_some h1
    rw [List.findSome?_eq_none_iff.1 h2 c (hp.mem_iff.1 hc)] at ha; cases ha
  · obtain ⟨c1, hc1, ha⟩ := List.exists_of_findSome?_eq_some h1
    obtain ⟨c2, hc2, hb⟩ := List.exists_of_findSome?_eq_some h2
    exact agree c1 c2 _ _ hc1 (hp.mem_iff.2 hc2) ha hb

theorem tryLitClasses_perm_unique (env : CoerceEnv) (vs en) {d : Py} (h : ∀ kvs, d ≠ .dictNS kvs) (cs1 cs2 : List JClass) (hp : cs1.Perm cs2)
    (uniq : ∀ c1 c2, c1 ∈ cs1 → c2 ∈ cs1 → (litHit env vs d c1).isSome → (litHit env vs d c2).isSome → c1 = c2) :
    tryLitClasses env vs en d cs1 = tryLitClasses env vs en d cs2 := by
  apply tryLitClasses_perm env vs en h cs1 cs2 hp
  intro c1 c2 a b h1 h2 ha hb
  have := uniq c1 c2 h1 h2 (by rw [ha]; rfl) (by rw [hb]; rfl)
  subst this
  rw [ha] at hb; cases hb; rfl

end Api
