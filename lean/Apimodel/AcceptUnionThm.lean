import Apimodel.UnionSelThm
/-!
# C01 / C03 / C13 with unions at any depth

Acceptance over the scope in which unions of any shape occur at any depth, by induction on `ScopeU`; that a union accepts
exactly when some alternative conforms needs the alternatives not to crash, which `nc_scope` provides over the same scope.
-/
namespace Api

theorem good_dom : DataDom (fun d => d.good = true) where
  list h x hx := by
    rw [good_iff, Py.jsonX, jsonXL_iff] at h
    exact good_iff.2 ⟨wf_dom.list h.1 x hx, h.2 x hx⟩
  dict h := by
    rw [good_iff, Py.jsonX, jsonXK_iff] at h
    exact ⟨(wf_dom.dict h.1).1, fun kv hkv => good_iff.2 ⟨(wf_dom.dict h.1).2 kv hkv, h.2 kv hkv⟩⟩
  str _ := rfl

def AcceptsG (o : DOpts) (cs : Constraints) (m : Meth) (t : Ty) : Prop :=
  ∀ d, d.good = true → (run m d).isOk = conforms o.additionalProperties false cs t d

abbrev AcceptsGF (o : DOpts) :=
  All2 (fun (fm : FieldInfo × Meth) (ft : FieldInfo × Ty) => fm.1 = ft.1 ∧ AcceptsG o {} fm.2 ft.2)

theorem acceptsG_scope (o : DOpts) (ho : OptsOk o) {cs t} (h : ScopeU cs t) : AcceptsG o cs (compile o cs t) t := by
  -- the leaves are in `Ty.acc`: `accepts_compile`
  have leaf : ∀ cs t, t.acc = true → AcceptsG o cs (compile o cs t) t :=
    fun cs t ht d hg => accepts_compile o ho cs t ht d (good_wf hg)
  induction h with
  | null | bool | int | float | str | any | literal | enum => exact leaf _ _ rfl
  | list _ _ ih => intro d hd; simp only [compile, conforms]; exact accepts_listSel good_dom ih d hd
  | vtuple _ _ ih => intro d hd; simp only [compile, run, isOk_mapVal_tuple, conforms]; exact accepts_listSel good_dom ih d hd
  | tuple _ _ ih => intro d hd; simp only [compile, ho.tupleDropsErrors, conforms]; exact accepts_tuple good_dom ih d hd
  | mapping _ _ ihk ihv => intro d hd; simp only [compile, conforms]; exact accepts_mappingSel good_dom ihk ihv d hd
  | union hside hnull hs ih =>
    intro d hg; simp only [compile, conforms]
    exact union_accepts_at o _ _ d (fun t ht => ⟨nc_scope o ho (hs t ht) d (good_jsonX hg), ih t ht d hg⟩)
      (sideOk_null hside) (not_all_null hnull).1 (not_all_null hnull).2
  | newtype _ ih | ann _ ih => intro d hg; simp only [compile, conforms]; exact ih d hg
  | obj hal hfb _ ih =>
    intro d hd; simp only [compile, conforms, compileF_eq_map' ho.fbod]
    exact accepts_objSel good_dom (fun ft hft => ⟨hfb ft hft, ih ft hft⟩) hal d hd

/-- **C01 / C13 (acceptance).** For every type of `Ty.accU` — unions of any shape (Optional, dispatch by
    JSON class, sequential) at any depth — without `uniqueItems`, every inherited constraint set without it, every value of
    `additional_properties`, `no_copy` and `override_dataclass_constructors`, and every datum with distinct keys and no
    crash-prone leaf, the compiled method returns a value exactly when the datum conforms: some alternative matches. -/
theorem acceptsU (o : DOpts) (ho : OptsOk o) :
    (∀ cs t, t.accU = true → t.nouq = true → cs.unique = false → AcceptsG o cs (compile o cs t) t) ∧
    (∀ fs, accUF fs = true → nouqF fs = true → AcceptsGF o (compileF o fs) fs) ∧
    (∀ cs ts, accUL ts = true → nouqL ts = true → cs.unique = false →
        ∀ t ∈ ts, AcceptsG o cs (compile o cs t) t) := by
  refine ⟨fun cs t hs hn hu => acceptsG_scope o ho (.of cs t hs hn hu), fun fs hs hn => ?_, fun cs ts hs hn hu t ht => ?_⟩
  · rw [compileF_eq_map' ho.fbod]
    exact All2.map_left fun ft hft =>
      ⟨rfl, acceptsG_scope o ho (.of {} ft.2 (accUF_iff.1 hs ft hft).2 (nouqF_iff.1 hn ft hft) rfl)⟩
  · exact acceptsG_scope o ho (.of cs t (accUL_iff.1 hs t ht) (nouqL_iff.1 hn t ht) hu)

/-- **C01 / C03 / C13, entry point.** `deserialize(T, data)` never leaks a foreign exception and returns a
    value iff `data` conforms to `T`, for `T` with unions at any depth. -/
theorem C01_acceptU (o : DOpts) (ho : OptsOk o) (t : Ty) (ha : t.accU = true) (hn : t.nouq = true)
    (d : Py) (hd : d.good = true) :
    (deserialize o {} t d).isCrash = false ∧
    (deserialize o {} t d).isOk = conforms o.additionalProperties false {} t d := by
  refine ⟨C03_no_crashU o ho t ha hn d (good_jsonX hd), ?_⟩
  unfold deserialize
  simp only [(compile_noFailU o).1 {} t ha]
  exact (acceptsU o ho).1 {} t ha hn rfl d hd

/-! ### the hypotheses are satisfiable; both verdicts occur, on a type that compiles to a by-type table around a sequential union -/

/-- `Dict[str, Union[int, str, List[Union[float, int, None]]]]` -/
def exTyU : Ty := .mapping .str (.union [.int, .str, .list (.union [.float, .int, .null])])

example : exTyU.accU = true ∧ exTyU.nouq = true ∧ exTyU.acc = false := by decide +kernel
example : (Py.dict [("a", .int 1), ("b", .list [.null, .int 2]), ("c", .str "x")]).good = true := by decide +kernel
example : conforms false false {} exTyU (.dict [("a", .int 1), ("b", .list [.null, .int 2]), ("c", .str "x")]) = true := by
  decide +kernel
example : conforms false false {} exTyU (.dict [("a", .int 1), ("b", .list [.null, .bool true])]) = false := by
  decide +kernel
example : (match compile exOpts {} exTyU with
    | .mapping _ _ (.unionByType [(_, _), (_, _), (_, .list _ (.union [_, _, _]))]) => true
    | _ => false) = true := by decide +kernel
example : (deserialize exOpts {} exTyU (.dict [("a", .int 1), ("b", .list [.null, .int 2]), ("c", .str "x")])).isOk = true := by
  decide +kernel

end Api
