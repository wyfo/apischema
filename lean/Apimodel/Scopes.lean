import Apimodel.ListLemmas
import Apimodel.Spec
/-!
# The fragments of data and of types over which the theorems are stated

Boolean predicates, so that the driver can report for a generated case which theorems speak about it (`Driver.lean`, reply
field `scope`); each comes with the `∀ ∈` reading of its list companions, which is the form the proofs use.
-/
namespace Api

def distinctStrs : List String → Bool
  | [] => true
  | s :: ss => !ss.contains s && distinctStrs ss

theorem nodup_of_distinctStrs : ∀ {l : List String}, distinctStrs l = true → l.Nodup
  | [], _ => List.nodup_nil
  | s :: ss, h => by
    unfold distinctStrs at h
    simp only [Bool.and_eq_true, Bool.not_eq_true', List.contains_eq_mem, decide_eq_false_iff_not] at h
    exact List.nodup_cons.2 ⟨h.1, nodup_of_distinctStrs h.2⟩

mutual
/-- every object has distinct keys, as a Python `dict` has (`Py.dict` is a list of pairs); nothing is asked of the leaves -/
def Py.wf : Py → Bool
  | .list xs => wfL xs
  | .dict kvs => distinctStrs (keysK kvs) && wfK kvs
  | _ => true
termination_by structural d => d
def wfL : List Py → Bool
  | [] => true
  | x :: xs => x.wf && wfL xs
termination_by structural xs => xs
def wfK : List (String × Py) → Bool
  | [] => true
  | (_, v) :: kvs => v.wf && wfK kvs
termination_by structural kvs => kvs
def keysK : List (String × Py) → List String
  | [] => []
  | (k, _) :: kvs => k :: keysK kvs
termination_by structural kvs => kvs
end

theorem wfL_iff {xs : List Py} : wfL xs = true ↔ ∀ x ∈ xs, x.wf = true :=
  forall_mem_iff_of_cons (by rw [wfL]) fun _ _ => by rw [wfL, Bool.and_eq_true]
theorem wfK_iff {kvs : List (String × Py)} : wfK kvs = true ↔ ∀ kv ∈ kvs, kv.2.wf = true :=
  forall_mem_iff_of_cons (by rw [wfK]) fun _ _ => by rw [wfK, Bool.and_eq_true]

mutual
/-- what `json.loads` can produce, with integers that fit a double (`float(10**400)` overflows: row 8) -/
def Py.json : Py → Bool
  | .null | .bool _ | .float _ | .str _ => true
  | .int i => (intToFlt i).isSome
  | .list xs => jsonL xs
  | .dict kvs => jsonK kvs
  | .dictNS _ | .other _ => false
termination_by structural d => d
def jsonL : List Py → Bool
  | [] => true
  | x :: xs => x.json && jsonL xs
termination_by structural xs => xs
def jsonK : List (String × Py) → Bool
  | [] => true
  | (_, v) :: kvs => v.json && jsonK kvs
termination_by structural kvs => kvs
end

theorem jsonL_iff {xs : List Py} : jsonL xs = true ↔ ∀ x ∈ xs, x.json = true :=
  forall_mem_iff_of_cons (by rw [jsonL]) fun _ _ => by rw [jsonL, Bool.and_eq_true]
theorem jsonK_iff {kvs : List (String × Py)} : jsonK kvs = true ↔ ∀ kv ∈ kvs, kv.2.json = true :=
  forall_mem_iff_of_cons (by rw [jsonK]) fun _ _ => by rw [jsonK, Bool.and_eq_true]

theorem jsonK_mem : ∀ {kvs : List (String × Py)}, jsonK kvs = true → ∀ kv ∈ kvs, kv.2.json = true :=
  jsonK_iff.1

mutual
/-- the same, where a *leaf* may also be any object that is not an instance of the JSON classes (tuple, bytes, a set,
    `object()`, ...): since the repair of row 6 `bad_type` names its class instead of raising, so such data are rejected
    like any ill-typed datum -/
def Py.jsonX : Py → Bool
  | .null | .bool _ | .float _ | .str _ | .other _ => true
  | .int i => (intToFlt i).isSome
  | .list xs => jsonXL xs
  | .dict kvs => jsonXK kvs
  | .dictNS _ => false
termination_by structural d => d
def jsonXL : List Py → Bool
  | [] => true
  | x :: xs => x.jsonX && jsonXL xs
termination_by structural xs => xs
def jsonXK : List (String × Py) → Bool
  | [] => true
  | (_, v) :: kvs => v.jsonX && jsonXK kvs
termination_by structural kvs => kvs
end

theorem jsonXL_iff {xs : List Py} : jsonXL xs = true ↔ ∀ x ∈ xs, x.jsonX = true :=
  forall_mem_iff_of_cons (by rw [jsonXL]) fun _ _ => by rw [jsonXL, Bool.and_eq_true]
theorem jsonXK_iff {kvs : List (String × Py)} : jsonXK kvs = true ↔ ∀ kv ∈ kvs, kv.2.jsonX = true :=
  forall_mem_iff_of_cons (by rw [jsonXK]) fun _ _ => by rw [jsonXK, Bool.and_eq_true]

theorem jsonX_of_json :
    (∀ d : Py, d.json = true → d.jsonX = true) ∧ (∀ kvs, jsonK kvs = true → jsonXK kvs = true) ∧
    (∀ xs, jsonL xs = true → jsonXL xs = true) := by
  apply Py.json.mutual_induct
  · intro _; rw [Py.jsonX]
  · intro b _; rw [Py.jsonX]
  · intro f _; rw [Py.jsonX]
  · intro s _; rw [Py.jsonX]
  · intro i h; rw [Py.json] at h; rw [Py.jsonX]; exact h
  · intro xs ih h; rw [Py.json] at h; rw [Py.jsonX]; exact ih h
  · intro kvs ih h; rw [Py.json] at h; rw [Py.jsonX]; exact ih h
  · intro kvs h; rw [Py.json] at h; cases h
  · intro c h; rw [Py.json] at h; cases h
  · intro _; rw [jsonXL]
  · intro x xs ih1 ih2 h; rw [jsonL, Bool.and_eq_true] at h; rw [jsonXL, ih1 h.1, ih2 h.2]; rfl
  · intro _; rw [jsonXK]
  · intro k v kvs ih1 ih2 h; rw [jsonK, Bool.and_eq_true] at h; rw [jsonXK, ih1 h.1, ih2 h.2]; rfl

def Py.good (d : Py) : Bool := d.wf && d.jsonX

theorem good_iff {d : Py} : d.good = true ↔ d.wf = true ∧ d.jsonX = true := by
  unfold Py.good; rw [Bool.and_eq_true]
theorem good_wf {d : Py} (h : d.good = true) : d.wf = true := (good_iff.1 h).1
theorem good_jsonX {d : Py} (h : d.good = true) : d.jsonX = true := (good_iff.1 h).2

mutual
/-- Data of `schema_iff_conforms` (C06): what `json.loads` yields, minus the values on which JSON Schema and Python
    disagree by design: integer-valued floats (`1.0` is an `integer` for JSON Schema, not for `int`), `nan`, infinities -/
def Py.sane : Py → Bool
  | .null | .bool _ | .int _ | .str _ => true
  | .float (.fin q) => !Rat.isInt q
  | .float _ => false
  | .list xs => saneL xs
  | .dict kvs => saneK kvs
  | .dictNS _ | .other _ => false
termination_by structural d => d
def saneL : List Py → Bool
  | [] => true
  | x :: xs => x.sane && saneL xs
termination_by structural xs => xs
def saneK : List (String × Py) → Bool
  | [] => true
  | (_, v) :: kvs => v.sane && saneK kvs
termination_by structural kvs => kvs
end

theorem saneL_iff {xs : List Py} : saneL xs = true ↔ ∀ x ∈ xs, x.sane = true :=
  forall_mem_iff_of_cons (by rw [saneL]) fun _ _ => by rw [saneL, Bool.and_eq_true]
theorem saneK_iff {kvs : List (String × Py)} : saneK kvs = true ↔ ∀ kv ∈ kvs, kv.2.sane = true :=
  forall_mem_iff_of_cons (by rw [saneK]) fun _ _ => by rw [saneK, Bool.and_eq_true]

mutual
/-- Scope of `accepts_iff_conforms` (C01). Outside it: sets and frozensets (`mkSet` raises `TypeError` on an unhashable
    element, where `conforms` only asks for a list of conforming elements), unions other than `Optional[T]`, fields with
    `fall_back_on_default` (a rejected value is then replaced, not reported), classes with two fields of one alias. -/
def Ty.acc : Ty → Bool
  | .list t | .vtuple t | .newtype _ t | .ann _ t => t.acc
  | .set _ | .frozenset _ => false
  | .tuple ts => accL ts
  | .mapping k v => k.acc && v.acc
  | .union ts => accOpt ts
  | .obj _ fs => distinctStrs (aliasesOf fs) && accF fs
  | _ => true
termination_by structural t => t
def accL : List Ty → Bool
  | [] => true
  | t :: ts => t.acc && accL ts
termination_by structural ts => ts
/-- `Optional[T]`: exactly `[T, None]` with `T` not itself of class `NoneType` -/
def accOpt : List Ty → Bool
  | [t, .null] => t.acc && (t.factoryCls != some .null)
  | _ => false
termination_by structural ts => ts
def accF : List (FieldInfo × Ty) → Bool
  | [] => true
  | (f, t) :: fs => !f.fbod && t.acc && accF fs
termination_by structural fs => fs
end

theorem accL_iff {ts : List Ty} : accL ts = true ↔ ∀ t ∈ ts, t.acc = true :=
  forall_mem_iff_of_cons (by rw [accL]) fun _ _ => by rw [accL, Bool.and_eq_true]
theorem accF_iff {fs : List (FieldInfo × Ty)} : accF fs = true ↔ ∀ ft ∈ fs, ft.1.fbod = false ∧ ft.2.acc = true :=
  forall_mem_iff_of_cons (by rw [accF]) fun _ _ => by simp only [accF, Bool.and_eq_true, Bool.not_eq_true', and_assoc]

/-- a `None`-class alternative of a union is `None` itself, not a NewType of `None` or an annotated `None`: `union()`
    takes the first alternative whose class is not `NoneType` for the one `OptionalMethod` wraps (`optional_pick`) -/
def sideOk (t : Ty) : Bool := (t.factoryCls != some .null) || t.isNull

mutual
/-- Scope of `acceptsU` (C01) and `no_crashU` (C03): as `Ty.acc`, with unions of any shape at any depth (every
    `None`-class alternative is `None`, at least one alternative is not); together with `Ty.nouq` it is read
    inductively as `ScopeU` (`ScopeU.of`, in `NoCrashThm`), which is what the proofs go by -/
def Ty.accU : Ty → Bool
  | .list t | .vtuple t | .newtype _ t | .ann _ t => t.accU
  | .set _ | .frozenset _ => false
  | .tuple ts => accUL ts
  | .mapping k v => k.accU && v.accU
  | .union ts => accUL ts && ts.all sideOk && !ts.all Ty.isNull
  | .obj _ fs => distinctStrs (aliasesOf fs) && accUF fs
  | _ => true
termination_by structural t => t
def accUL : List Ty → Bool
  | [] => true
  | t :: ts => t.accU && accUL ts
termination_by structural ts => ts
def accUF : List (FieldInfo × Ty) → Bool
  | [] => true
  | (f, t) :: fs => !f.fbod && t.accU && accUF fs
termination_by structural fs => fs
end

theorem accUL_iff {ts : List Ty} : accUL ts = true ↔ ∀ t ∈ ts, t.accU = true :=
  forall_mem_iff_of_cons (by rw [accUL]) fun _ _ => by rw [accUL, Bool.and_eq_true]
theorem accUF_iff {fs : List (FieldInfo × Ty)} : accUF fs = true ↔ ∀ ft ∈ fs, ft.1.fbod = false ∧ ft.2.accU = true :=
  forall_mem_iff_of_cons (by rw [accUF]) fun _ _ => by simp only [accUF, Bool.and_eq_true, Bool.not_eq_true', and_assoc]

theorem accU_union {ts : List Ty} (h : (Ty.union ts).accU = true) :
    (∀ t ∈ ts, t.accU = true) ∧ ts.all sideOk = true ∧ ts.all Ty.isNull = false := by
  rw [Ty.accU] at h
  simpa only [Bool.and_eq_true, Bool.not_eq_true', accUL_iff, and_assoc] using h
theorem sideOk_null {ts : List Ty} (h : ts.all sideOk = true) : ∀ t ∈ ts, t.factoryCls = some .null → t = .null := by
  intro t ht hc
  have := List.all_eq_true.1 h t ht
  rw [sideOk, hc] at this
  revert this; fun_cases Ty.isNull t <;> intro this
  · rfl
  · cases this
theorem not_all_null {ts : List Ty} (h : ts.all Ty.isNull = false) : ts ≠ [] ∧ ¬ ∀ t ∈ ts, t = .null := by
  refine ⟨fun he => ?_, fun hall => ?_⟩
  · rw [he] at h; cases h
  · have : ts.all Ty.isNull = true := List.all_eq_true.2 fun t ht => by rw [hall t ht]; rfl
    rw [this] at h; cases h

mutual
-- no `uniqueItems` constraint anywhere: C03, C02. In apischema `set(map(to_hashable, data))` raises `TypeError` on an
-- unhashable leaf (finding KF08b); in the model every `.other` leaf counts as hashable (`Py.hashable`) and `toHashable`
-- never fails
def Ty.nouq : Ty → Bool
  | .list t | .vtuple t | .set t | .frozenset t | .newtype _ t => t.nouq
  | .ann c t => !c.unique && t.nouq
  | .tuple ts | .union ts => nouqL ts
  | .mapping k v => k.nouq && v.nouq
  | .obj _ fs => nouqF fs
  | _ => true
termination_by structural t => t
def nouqL : List Ty → Bool
  | [] => true
  | t :: ts => t.nouq && nouqL ts
termination_by structural ts => ts
def nouqF : List (FieldInfo × Ty) → Bool
  | [] => true
  | (_, t) :: fs => t.nouq && nouqF fs
termination_by structural fs => fs
end

theorem nouqL_iff {ts : List Ty} : nouqL ts = true ↔ ∀ t ∈ ts, t.nouq = true :=
  forall_mem_iff_of_cons (by rw [nouqL]) fun _ _ => by rw [nouqL, Bool.and_eq_true]
theorem nouqF_iff {fs : List (FieldInfo × Ty)} : nouqF fs = true ↔ ∀ ft ∈ fs, ft.2.nouq = true :=
  forall_mem_iff_of_cons (by rw [nouqF]) fun _ _ => by rw [nouqF, Bool.and_eq_true]

mutual
-- scope of `errors_eq_violations` (C02) and `image_nocopy_off` (C01, image): every child error is keyed by an index
def Ty.efrag : Ty → Bool
  | .null | .bool | .int | .float | .str | .any => true
  | .list t | .vtuple t | .newtype _ t | .ann _ t => t.efrag
  | .tuple ts => efragL ts
  | _ => false
termination_by structural t => t
def efragL : List Ty → Bool
  | [] => true
  | t :: ts => t.efrag && efragL ts
termination_by structural ts => ts
end

theorem efragL_iff {ts : List Ty} : efragL ts = true ↔ ∀ t ∈ ts, t.efrag = true :=
  forall_mem_iff_of_cons (by rw [efragL]) fun _ _ => by rw [efragL, Bool.and_eq_true]

mutual
/-- Scope of `noCopy_independent` (C08): no TypedDict (its two code paths order the resulting dict differently, which
    Python's `==` ignores and the model's lists do not), distinct field names; any key type, since the repair of row 30 -/
def Ty.scope : Ty → Bool
  | .list t | .set t | .frozenset t | .vtuple t | .newtype _ t | .ann _ t => t.scope
  | .tuple ts | .union ts => scopeL ts
  | .mapping k v => k.scope && v.scope
  | .obj ci fs => ci.kind != .typedDict && distinctStrs (namesT fs) && scopeF fs
  | _ => true
termination_by structural t => t
def scopeL : List Ty → Bool
  | [] => true
  | t :: ts => t.scope && scopeL ts
termination_by structural ts => ts
def scopeF : List (FieldInfo × Ty) → Bool
  | [] => true
  | (_, t) :: fs => t.scope && scopeF fs
termination_by structural fs => fs
def namesT : List (FieldInfo × Ty) → List String
  | [] => []
  | (f, _) :: fs => f.name :: namesT fs
termination_by structural fs => fs
end

theorem scopeL_iff {ts} : scopeL ts = true ↔ ∀ t ∈ ts, t.scope = true :=
  forall_mem_iff_of_cons (by rw [scopeL]) fun _ _ => by rw [scopeL, Bool.and_eq_true]
theorem scopeF_iff {fs} : scopeF fs = true ↔ ∀ ft ∈ fs, ft.2.scope = true :=
  forall_mem_iff_of_cons (by rw [scopeF]) fun _ _ => by rw [scopeF, Bool.and_eq_true]
theorem namesT_eq_map : ∀ fs, namesT fs = fs.map (·.1.name) :=
  eq_map_of_cons (by rw [namesT]) fun _ _ => by rw [namesT]

/-- not `float` behind NewTypes / annotations (a `float` alternative accepts `int` data: row 3) -/
def Ty.noFloat : Ty → Bool
  | .float => false
  | .newtype _ t => t.noFloat
  | .ann _ t => t.noFloat
  | _ => true

-- Scope of `C14_monotone_partial`; clause by clause the definition of `Ty.acc` (`cfrag_acc`)
mutual
def Ty.cfrag : Ty → Bool
  | .set _ | .frozenset _ => false
  | .obj _ fs => distinctStrs (aliasesOf fs) && cfragF fs
  | .list t | .vtuple t | .newtype _ t | .ann _ t => t.cfrag
  | .tuple ts => cfragL ts
  | .mapping k v => k.cfrag && v.cfrag
  | .union ts => cfragOpt ts
  | _ => true
termination_by structural t => t
def cfragL : List Ty → Bool
  | [] => true
  | t :: ts => t.cfrag && cfragL ts
termination_by structural ts => ts
def cfragOpt : List Ty → Bool
  | [t, .null] => t.cfrag && (t.factoryCls != some .null)
  | _ => false
termination_by structural ts => ts
def cfragF : List (FieldInfo × Ty) → Bool
  | [] => true
  | (f, t) :: fs => !f.fbod && t.cfrag && cfragF fs
termination_by structural fs => fs
end

theorem cfragL_iff {ts : List Ty} : cfragL ts = true ↔ ∀ t ∈ ts, t.cfrag = true :=
  forall_mem_iff_of_cons (by rw [cfragL]) fun _ _ => by rw [cfragL, Bool.and_eq_true]
theorem cfragF_iff {fs : List (FieldInfo × Ty)} : cfragF fs = true ↔ ∀ ft ∈ fs, ft.1.fbod = false ∧ ft.2.cfrag = true :=
  forall_mem_iff_of_cons (by rw [cfragF]) fun _ _ => by simp only [cfragF, Bool.and_eq_true, Bool.not_eq_true', and_assoc]

/-- constraints may be attached to these (on literals and enums the schema shows them, deserialization
    ignores them: row 40) -/
def Ty.isBase : Ty → Bool | .ann _ _ | .newtype _ _ | .literal _ | .enum _ _ | .union _ => false | _ => true

/-- what may stand under `Optional[…]` in `Ty.sch` (not a literal / enum: row 28) -/
def Ty.optInner : Ty → Bool
  | .bool | .int | .str | .any | .list _ | .vtuple _ | .tuple _ | .mapping _ _ | .obj _ _ => true
  | _ => false
def Ty.isStr : Ty → Bool | .str => true | _ => false
def Lit.isStr : Lit → Bool | .str _ => true | _ => false

mutual
-- Scope of `schema_iff_conforms` (C06). `float` is outside: `Py.sane` keeps every integer, and the schema's `number`
-- validates one that does not fit a double, which does not conform to `float` (`intAsFloatOk`; `float(10**400)` raises:
-- row 8). Mapping keys are plain `str`: of the key's schema `mapping()` prints only a `pattern` (`mappingSchema`), while
-- `conforms` asks every key to conform to the key type.
def Ty.sch : Ty → Bool
  | .null | .bool | .int | .str | .any => true
  | .float | .set _ | .frozenset _ => false
  | .union ts => schOpt ts
  | .list t | .vtuple t | .newtype _ t => t.sch
  | .tuple ts => schL ts
  | .mapping k v => k.isStr && v.sch
  | .literal vs => !vs.isEmpty && vs.all Lit.isStr
  | .enum _ ms => !ms.isEmpty && ms.all (fun m => m.2.isStr)
  | .ann c t => !c.unique && t.isBase && t.sch
  | .obj _ fs => schF fs
termination_by structural t => t
def schL : List Ty → Bool
  | [] => true
  | t :: ts => t.sch && schL ts
termination_by structural ts => ts
def schF : List (FieldInfo × Ty) → Bool
  | [] => true
  | (f, t) :: fs => !f.fbod && f.requiredBy.isEmpty && t.sch && schF fs
termination_by structural fs => fs
def schOpt : List Ty → Bool
  | [t, .null] => t.optInner && t.sch
  | _ => false
termination_by structural ts => ts
end

theorem schL_iff {ts : List Ty} : schL ts = true ↔ ∀ t ∈ ts, t.sch = true :=
  forall_mem_iff_of_cons (by rw [schL]) fun _ _ => by rw [schL, Bool.and_eq_true]
/-- the schema fragment has no `dependent_required` (the builder's `dependentRequired` keyword is not modelled) -/
theorem schF_iff {fs : List (FieldInfo × Ty)} :
    schF fs = true ↔ ∀ ft ∈ fs, (ft.1.fbod = false ∧ ft.1.requiredBy = []) ∧ ft.2.sch = true :=
  forall_mem_iff_of_cons (by rw [schF]) fun _ _ => by simp only [schF, Bool.and_eq_true, Bool.not_eq_true', List.isEmpty_iff]

theorem schOpt_cases {ts : List Ty} (h : schOpt ts = true) :
    ∃ t, ts = [t, .null] ∧ t.optInner = true ∧ t.sch = true := by
  unfold schOpt at h
  split at h
  · next t => rw [Bool.and_eq_true] at h; exact ⟨t, rfl, h.1, h.2⟩
  · cases h

mutual
/-- Scope of `roundtripO_nocopy_off` (C05 with objects): dataclasses with distinct field names and distinct aliases -/
def Ty.rtO : Ty → Bool
  | .null | .bool | .int | .float | .str => true
  | .list t | .vtuple t | .newtype _ t => t.rtO
  | .tuple ts => rtOL ts
  | .obj ci fs => ci.kind == .dataclass && distinctStrs (namesT fs) && distinctStrs (aliasesOf fs) && rtOF fs
  | _ => false
termination_by structural t => t
def rtOL : List Ty → Bool
  | [] => true
  | t :: ts => t.rtO && rtOL ts
termination_by structural ts => ts
def rtOF : List (FieldInfo × Ty) → Bool
  | [] => true
  | (_, t) :: fs => t.rtO && rtOF fs
termination_by structural fs => fs
end

theorem rtOL_iff {ts : List Ty} : rtOL ts = true ↔ ∀ t ∈ ts, t.rtO = true :=
  forall_mem_iff_of_cons (by rw [rtOL]) fun _ _ => by rw [rtOL, Bool.and_eq_true]
theorem rtOF_iff {fs : List (FieldInfo × Ty)} : rtOF fs = true ↔ ∀ ft ∈ fs, ft.2.rtO = true :=
  forall_mem_iff_of_cons (by rw [rtOF]) fun _ _ => by rw [rtOF, Bool.and_eq_true]

end Api
