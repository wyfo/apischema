/-! Attribution of the keys of a datum to the aggregate fields of a class (`ObjectMethod.deserialize`, the `if self.aggregate_fields:` branch).

After the declared fields, `remain = data.keys() - all_aliases`; every flattened field takes - from the *datum* - the keys among its own aliases and
removes them from `remain`; every pattern field, in declaration order, takes the keys of `remain` its pattern matches and removes them; the
additional-properties field takes what is left; without such a field what is left is unexpected (unless `additional_properties` is on, which this model does not have).  Regular expressions are a parameter: a pattern is
its matching function on keys (the correspondence computes it with Python's `re`). -/
namespace Api.Agg

def sub (xs ys : List String) : List String := xs.filter (fun k => !ys.contains k)

/-- the flattened fields, in order: (keys each one takes, what remains) -/
def flatLoop (keys : List String) : List (List String) → List String → List (List String) × List String
  | [], remain => ([], remain)
  | fl :: fls, remain =>
    let got := fl.filter (fun a => keys.contains a)
    let r := flatLoop keys fls (sub remain got)
    (got :: r.1, r.2)

/-- the pattern fields, in order -/
def patLoop : List (String → Bool) → List String → List (List String) × List String
  | [], remain => ([], remain)
  | p :: ps, remain =>
    let r := patLoop ps (remain.filter (fun k => !p k))
    (remain.filter p :: r.1, r.2)

structure Spec where
  aliases : List String
  flattened : List (List String)
  additional : Bool

structure Attribution where
  flattened : List (List String)
  matched : List (List String)
  additional : Option (List String)
  unexpected : List String

def attrib (s : Spec) (pats : List (String → Bool)) (keys : List String) : Attribution :=
  let f := flatLoop keys s.flattened (sub keys s.aliases)
  let p := patLoop pats f.2
  { flattened := f.1, matched := p.1, additional := if s.additional then some p.2 else none, unexpected := if s.additional then [] else p.2 }

/-- the first pattern (least index) that matches a key -/
def firstIdx : List (String → Bool) → String → Option Nat
  | [], _ => none
  | p :: ps, k => if p k then some 0 else (firstIdx ps k).map (· + 1)

end Api.Agg
