import Apimodel.AcceptUnionThm
import Apimodel.CoerceThm
/-!
# C03 and C14 under coercion, with unions at any depth

Monotonicity through a sequential union needs more than monotonicity of the alternatives: an alternative tried *before*
the accepting one must not raise a foreign exception under coercion. Hence `no_crashC` (C03 under `coerce=True`) comes first.
-/
namespace Api

theorem coerce_nc (env : CoerceEnv) (c : JClass) (d : Py) (h : ∀ kvs, d ≠ .dictNS kvs) :
    (coerce env c d).isCrash = false :=
  isCrash_coerce env c d

theorem nc_coerced {env : CoerceEnv} {c : JClass} {m : Meth}
    (hm : ∀ d d', d.jsonX = true → coerce env c d = .ok d' → (run m d').isCrash = false) : NC (.coerced env c m) := by
  intro d hd
  rw [run]
  cases hc : coerce env c d with
  | ok d' => exact hm d d' hd hc
  | invalid e => rfl
  | crash x => have := isCrash_coerce env c d; rw [hc] at this; cases this

theorem coerce_container {env : CoerceEnv} {c : JClass} (hc : c = .list ∨ c = .dict) {d d' : Py}
    (h : coerce env c d = .ok d') : d' = d :=
  -- no row of the table of conversions has a container class
  (coerce_ok_cases env c d d' h).resolve_right (by rcases hc with rfl | rfl <;> (intro h; cases h.1))

theorem nc_coerced_container {env : CoerceEnv} {c : JClass} {m : Meth} (hc : c = .list ∨ c = .dict)
    (hm : NC m) : NC (.coerced env c m) :=
  nc_coerced (fun d d' hd h => by rw [coerce_container hc h]; exact hm d hd)

theorem coerce_float_ok {env : CoerceEnv} {d d' : Py} (h : coerce env .float d = .ok d') : ∃ f, d' = .float f := by
  cases d <;> simp only [coerce, badTypeP, failAs, badType] at h <;> first
    | (cases h; done)
    | (cases h; exact ⟨_, rfl⟩)
    | (split at h <;> first | (cases h; exact ⟨_, rfl⟩) | (cases h; done))

theorem isCrash_tryLitClasses (env : CoerceEnv) (vs en) (d : Py) : ∀ cs, (tryLitClasses env vs en d cs).isCrash = false
  | [] => by rw [tryLitClasses]; exact isCrash_runLiteral vs en d
  | c :: cs => by
    rw [tryLitClasses]
    cases hc : coerce env c d with
    | ok d' => simp only; split <;> first | exact isCrash_runLiteral vs en _ | exact isCrash_tryLitClasses env vs en d cs
    | invalid e => exact isCrash_tryLitClasses env vs en d cs
    | crash x => have := isCrash_coerce env c d; rw [hc] at this; cases this

theorem tryLitClasses_nc (env : CoerceEnv) (vs en) {d : Py} (h : ∀ kvs, d ≠ .dictNS kvs) :
    ∀ cs, (tryLitClasses env vs en d cs).isCrash = false :=
  isCrash_tryLitClasses env vs en d

theorem nc_literalC (env : CoerceEnv) (vs en) : NC (.literalC env vs en) := by
  intro d _
  rw [run]
  fun_cases runLiteralC env vs en d <;> first | exact isCrash_runLiteral vs en d | exact isCrash_tryLitClasses env vs en d _

theorem nc_optionalC {env : CoerceEnv} {m : Meth} (hm : NC m) : NC (.optionalC env m) := by
  intro d hd
  rw [run]
  split
  · rfl
  · unfold optionalTailC
    have := hm d hd
    cases hr : run m d with
    | ok v => rfl
    | crash x => rw [hr] at this; cases this
    | invalid e =>
      simp only
      have hc := isCrash_coerce env .null d
      cases hcc : coerce env .null d with
      | ok _ => rfl
      | invalid b => rfl
      | crash x => rw [hcc] at hc; cases hc

theorem nc_unionSelC {env : CoerceEnv} {clss : List (Option JClass)} {hasNone : Bool} {ms : List Meth}
    (hne : ms ≠ []) (hfind : ((clss.zip ms).find? (fun p => p.1 != some .null)).isSome = true)
    (h : ∀ m ∈ ms, NC m) : NC (unionSelC env clss hasNone ms) := by
  unfold unionSelC
  split
  · split
    · next p m hf => exact nc_optionalC (h m (List.of_mem_zip (List.mem_of_find?_eq_some hf)).2)
    · next hf => rw [hf] at hfind; cases hfind
  · exact nc_union hne h

theorem ncC_scope (o : DOpts) (env : CoerceEnv) {cs t} (h : ScopeU cs t) : NC (compileC o env cs t) := by
  induction h with
  | null => simp only [compileC]; exact nc_coerced fun _ d' _ _ => by simp only [run]; exact isCrash_runNone d'
  | bool => simp only [compileC]; exact nc_coerced fun _ d' _ _ => by simp only [run]; exact isCrash_runBool d'
  | int => simp only [compileC]; exact nc_coerced fun _ d' _ _ => by split <;> (simp only [run]; exact isCrash_runInt _ d')
  | float =>
    -- what the coercer hands over is a `float`: no `float(i)` left to overflow
    simp only [compileC]
    exact nc_coerced fun d d' hd h => by
      obtain ⟨f, rfl⟩ := coerce_float_ok h
      have hf : ∀ ab c, (runFloat ab c (.float f)).isCrash = false := fun _ _ => isCrash_constrained _ _
      split <;> (simp only [run]; exact hf _ _)
  | str => simp only [compileC]; exact nc_coerced fun _ d' _ _ => by split <;> (simp only [run]; exact isCrash_runStr _ d')
  | any hu => intro d _; simp only [compileC, run]; exact isCrash_runAny _ hu d
  | literal | enum => simp only [compileC]; exact nc_literalC env _ _
  | list hu _ ih => simp only [compileC]; exact nc_coerced_container (Or.inl rfl) (nc_listSel hu ih)
  | vtuple hu _ ih =>
    simp only [compileC]
    refine nc_coerced_container (Or.inl rfl) fun d hd => ?_
    simp only [run]; exact nc_mapVal_tuple (nc_listSel hu ih d hd)
  | tuple hu _ ih =>
    simp only [compileC, compileCL_eq_map]
    exact nc_coerced_container (Or.inl rfl) (nc_tuple hu (List.forall_mem_map.2 ih))
  | mapping _ _ ihk ihv => simp only [compileC]; exact nc_coerced_container (Or.inr rfl) (nc_mappingSel ihk ihv)
  | @union cs ts hside hnull _ ih =>
    simp only [compileC, compileCL_eq_map]
    exact nc_unionSelC (fun he => (not_all_null hnull).1 (List.map_eq_nil_iff.1 he))
      (find_nonNull_zip ts _ (List.length_map _) hside hnull) (List.forall_mem_map.2 ih)
  | newtype _ ih | ann _ ih => simp only [compileC]; exact ih
  | obj _ _ _ ih =>
    simp only [compileC, compileCF_eq_map]
    exact nc_coerced_container (Or.inr rfl) (nc_objSel (List.forall_mem_map.2 ih))

/-- **C03 under coercion.** For every type of `Ty.accU` without `uniqueItems`, every inherited constraint set without it, every
    option record and every conversion environment, the method tree built
    with the default coercer returns a value or a `ValidationError` on every datum of `Py.jsonX` (JSON data with integers
    within the range of a double; any non-JSON object allowed as a leaf). -/
theorem no_crashC (o : DOpts) (ho : OptsOk o) (env : CoerceEnv) :
    (∀ cs t, t.accU = true → t.nouq = true → cs.unique = false → NC (compileC o env cs t)) ∧
    (∀ fs, accUF fs = true → nouqF fs = true → ∀ p ∈ compileCF o env fs, NC p.2) ∧
    (∀ cs ts, accUL ts = true → nouqL ts = true → cs.unique = false → ∀ m ∈ compileCL o env cs ts, NC m) := by
  refine ⟨fun cs t ha hn hu => ncC_scope o env (.of cs t ha hn hu), fun fs ha hn => ?_, fun cs ts ha hn hu => ?_⟩
  · rw [compileCF_eq_map]
    exact List.forall_mem_map.2 fun ft hft =>
      ncC_scope o env (.of {} ft.2 (accUF_iff.1 ha ft hft).2 (nouqF_iff.1 hn ft hft) rfl)
  · rw [compileCL_eq_map]
    exact List.forall_mem_map.2 fun t ht => ncC_scope o env (.of cs t (accUL_iff.1 ha t ht) (nouqL_iff.1 hn t ht) hu)

def AccC (o : DOpts) (cs : Constraints) (m : Meth) (t : Ty) : Prop :=
  ∀ d, d.good = true → conforms o.additionalProperties false cs t d = true → (run m d).isOk = true

theorem monoU_scope (o : DOpts) (ho : OptsOk o) (env : CoerceEnv) {cs t} (h : ScopeU cs t) :
    MonoOn (fun d => d.good = true) (compile o cs t) (compileC o env cs t) := by
  have wrap : ∀ {cs t c m'}, ScopeU cs t → t.factoryCls = some c → t.noFloat = true →
      MonoOn (fun d => d.good = true) (compile o cs t) m' →
      MonoOn (fun d => d.good = true) (compile o cs t) (.coerced env c m') := fun hs =>
    mono_coerced (acceptsG_scope o ho hs)
  induction h with
  | null | bool | int | float | str | any | literal | enum => exact fun d hg => mono_compile o ho env _ _ rfl d (good_wf hg)
  | list hu hs ih =>
    simp only [compileC]; refine wrap (.list hu hs) rfl rfl ?_
    simp only [compile]; exact mono_listSel good_dom ih
  | vtuple hu hs ih =>
    simp only [compileC]; refine wrap (.vtuple hu hs) rfl rfl ?_
    simp only [compile]; exact mono_vtuple (mono_listSel good_dom ih)
  | tuple hu hs ih =>
    simp only [compileC, ho.tupleDropsErrors, compileCL_eq_map]; refine wrap (.tuple hu hs) rfl rfl ?_
    simp only [compile, ho.tupleDropsErrors, compileL_eq_map]; exact mono_tuple good_dom ih
  | mapping hk hv ihk ihv =>
    simp only [compileC]; refine wrap (.mapping hk hv) rfl rfl ?_
    simp only [compile]; exact mono_mappingSel good_dom ihk ihv
  | @union cs ts hside hnull hs ih =>
    -- the datum conforms to some alternative `t`, which the coerced tree of `t` accepts (`hok`)
    intro d hg hc
    rw [acceptsG_scope o ho (.union hside hnull hs) d hg, conforms, conformsAny_eq_any] at hc
    obtain ⟨t, ht, hct⟩ := List.any_eq_true.1 hc
    have hok : (run (compileC o env cs t) d).isOk = true :=
      ih t ht d hg (by rw [acceptsG_scope o ho (hs t ht) d hg]; exact hct)
    simp only [compileC, compileCL_eq_map]
    unfold unionSelC
    split
    · -- OptionalMethod with a coercer: the alternative found is the only one that is not `None`
      next hopt =>
      rw [Bool.and_eq_true, List.length_map] at hopt
      obtain ⟨t', hts, hfind⟩ := optional_pick (compileC o env cs) (by simpa using hopt.2) hopt.1
        (sideOk_null hside) (not_all_null hnull).2
      simp only [hfind]
      apply isOk_optionalC_of
      have hmem : t = t' ∨ t = .null := by
        rcases hts with rfl | rfl
        · exact (List.mem_cons.1 ht).imp_right List.mem_singleton.1
        · exact ((List.mem_cons.1 ht).imp_right List.mem_singleton.1).symm
      rcases hmem with rfl | rfl
      · exact Or.inr hok
      · rw [conforms] at hct; exact Or.inl hct
    · -- sequential: nothing before the matching alternative crashes
      rw [isOk_val?, run, C13_sequential _ d Option.none, firstOk_isSome]
      · exact List.any_eq_true.2 ⟨_, List.mem_map_of_mem ht, hok⟩
      · exact List.forall_mem_map.2 fun t' ht' => ncC_scope o env (hs t' ht') d (good_jsonX hg)
  | newtype _ ih | ann _ ih => simp only [compile, compileC]; exact ih
  | @obj cs ci fs hal hfb hs ih =>
    simp only [compileC, compileCF_eq_map' ho.fbod]; refine wrap (.obj hal hfb hs) rfl rfl ?_
    simp only [compile, compileF_eq_map' ho.fbod]
    have hnf : NoFbod (fs.map fun ft => (ft.1, compile o {} ft.2)) := List.forall_mem_map.2 hfb
    exact monoOn_objSel good_dom (All2.map (g := fun ft : FieldInfo × Ty => (ft.1, compileC o env {} ft.2))
      fun ft hft => ⟨rfl, ih ft hft⟩) hnf (aliasesM_map _ fs ▸ hal)

theorem accC_scope (o : DOpts) (ho : OptsOk o) (env : CoerceEnv) {cs t} (h : ScopeU cs t) :
    AccC o cs (compileC o env cs t) t :=
  fun d hg hc => monoU_scope o ho env h d hg (by rw [acceptsG_scope o ho h d hg]; exact hc)

/-- **C14 (completeness of the coerced tree).** Every good datum that conforms to a type of `Ty.accU` (no
    `uniqueItems`) is accepted by the method tree built with the default coercer: whichever union method is selected,
    whatever is tried before the alternative that matches. -/
theorem conforms_acceptedC (o : DOpts) (ho : OptsOk o) (env : CoerceEnv) :
    (∀ cs t, t.accU = true → t.nouq = true → cs.unique = false → AccC o cs (compileC o env cs t) t) ∧
    (∀ fs, accUF fs = true → nouqF fs = true → ∀ ft ∈ fs, AccC o {} (compileC o env {} ft.2) ft.2) ∧
    (∀ cs ts, accUL ts = true → nouqL ts = true → cs.unique = false → ∀ t ∈ ts, AccC o cs (compileC o env cs t) t) :=
  ⟨fun cs t ha hn hu => accC_scope o ho env (.of cs t ha hn hu),
   fun _ ha hn ft hft => accC_scope o ho env (.of {} ft.2 (accUF_iff.1 ha ft hft).2 (nouqF_iff.1 hn ft hft) rfl),
   fun cs _ ha hn hu t ht => accC_scope o ho env (.of cs t (accUL_iff.1 ha t ht) (nouqL_iff.1 hn t ht) hu)⟩

/-- **C14 (monotonicity) over `Ty.accU`.** With the default coercer every good datum (`Py.good`) accepted in strict mode is
    still accepted, for every type of `Ty.accU` without `uniqueItems`: unions of any shape at any depth included. -/
theorem C14_monotoneU (o : DOpts) (ho : OptsOk o) (env : CoerceEnv) (cs : Constraints) (t : Ty)
    (ha : t.accU = true) (hn : t.nouq = true) (hu : cs.unique = false) (d : Py) (hg : d.good = true)
    (hs : (run (compile o cs t) d).isOk = true) : (run (compileC o env cs t) d).isOk = true :=
  monoU_scope o ho env (.of cs t ha hn hu) d hg hs

/-! ### the hypotheses are satisfiable -/
/-- `Dict[str, Union[List[Union[float, None, str]], int]]`: a sequential union (coercion never builds the by-type table)
    around another one -/
def exTyC : Ty := .mapping .str (.union [.list (.union [.float, .null, .str]), .int])

example : exTyC.accU = true ∧ exTyC.nouq = true ∧ exTyC.cfrag = false := by decide +kernel
example : (Py.dict [("a", .list [.int 1, .null, .str "x"]), ("b", .int 2)]).good = true := by decide +kernel
example : (run (compile exOpts {} exTyC) (.dict [("a", .list [.int 1, .null, .str "x"]), ("b", .int 2)])).isOk = true := by
  decide +kernel
example : (run (compileC exOpts {} {} exTyC) (.dict [("a", .list [.int 1, .null, .str "x"]), ("b", .int 2)])).isOk = true := by
  decide +kernel
/-- accepted only under coercion: `"3"` where the union offers `int` -/
example : (run (compile exOpts {} exTyC) (.dict [("b", .str "3")])).isOk = false ∧
    (run (compileC exOpts { intOf := [("3", 3)] } {} exTyC) (.dict [("b", .str "3")])).isOk = true := by decide +kernel

end Api
