import Apimodel.Constraints
import Apimodel.Generated.ConstraintsSrc
/-! Source tie of the constraints (C01, C02, C06): the attributes of `Constraints` in declaration order, the expression each `*Constraint.validate`
returns, and the if / elif chain of `merge_constraints`, regenerated from the working tree, are interpreted and proved to be the model's
`numErrors`, `dictErrors`, the two length rules of `strErrors` and of `listErrors` (`pattern` and `uniqueItems` are not read from the
source) and the option structure of `Constraints.merge`. -/
namespace Api

/-- `to_pascal_case(alias) + "Constraint"` -/
def consClass : String → String
  | "minimum" => "MinimumConstraint" | "maximum" => "MaximumConstraint" | "exclusiveMinimum" => "ExclusiveMinimumConstraint"
  | "exclusiveMaximum" => "ExclusiveMaximumConstraint" | "multipleOf" => "MultipleOfConstraint" | "minLength" => "MinLengthConstraint"
  | "maxLength" => "MaxLengthConstraint" | "pattern" => "PatternConstraint" | "minItems" => "MinItemsConstraint" | "maxItems" => "MaxItemsConstraint"
  | "uniqueItems" => "UniqueItemsConstraint" | "minProperties" => "MinPropertiesConstraint" | "maxProperties" => "MaxPropertiesConstraint"
  | s => s

/-- the expression `validate` returns, read on numbers: datum, bound -/
def cmpNum : String → Option (Num → Num → Bool)
  | "data >= self.minimum" => some (fun d m => m.le d)
  | "data <= self.maximum" => some (fun d m => d.le m)
  | "data > self.exc_min" => some (fun d m => m.lt d)
  | "data < self.exc_max" => some (fun d m => d.lt m)
  | "not data % self.mult_of" => some (fun d m => d.isMultipleOf m)
  | _ => Option.none

/-- ... on lengths: `len(data)`, bound -/
def cmpLen : String → Option (Nat → Nat → Bool)
  | "len(data) >= self.min_len" | "len(data) >= self.min_items" | "len(data) >= self.min_properties" => some (fun l n => n ≤ l)
  | "len(data) <= self.max_len" | "len(data) <= self.max_items" | "len(data) <= self.max_properties" => some (fun l n => l ≤ n)
  | _ => Option.none

def numBound (c : Constraints) : String → Option Num
  | "min" => c.min | "max" => c.max | "exc_min" => c.excMin | "exc_max" => c.excMax | "mult_of" => c.multOf | _ => Option.none
def numRule : String → Option (Num → Rule)
  | "minimum" => some .minimum | "maximum" => some .maximum | "exclusiveMinimum" => some .exclusiveMinimum
  | "exclusiveMaximum" => some .exclusiveMaximum | "multipleOf" => some .multipleOf | _ => Option.none
def lenBound (c : Constraints) : String → Option Nat
  | "min_len" => c.minLen | "max_len" => c.maxLen | "min_items" => c.minItems | "max_items" => c.maxItems
  | "min_props" => c.minProps | "max_props" => c.maxProps | _ => Option.none
def lenRule : String → Option (Nat → Rule)
  | "minLength" => some .minLength | "maxLength" => some .maxLength | "minItems" => some .minItems | "maxItems" => some .maxItems
  | "minProperties" => some .minProperties | "maxProperties" => some .maxProperties | _ => Option.none

def exprOf (validate : List (String × String × String)) (cls : String) : Option String :=
  (validate.find? (fun e => e.1 == cls)).map (fun e => e.2.2)

/-- the failing number rules, walking the declaration in order (`constraints_validators` + `validate_constraints`) -/
def numErrorsSrc (decl : List (String × String × String × String)) (validate : List (String × String × String)) (c : Constraints) (x : Num) :
    Option (List Rule) :=
  match decl with
  | [] => some []
  | (attr, alias, jcls, _) :: rest =>
      if jcls != "float" then numErrorsSrc rest validate c x
      else match (exprOf validate (consClass alias)).bind cmpNum, numRule alias, numErrorsSrc rest validate c x with
        | some ok, some r, some more => some (optRule (numBound c attr) (fun m => ok x m) r ++ more)
        | _, _, _ => Option.none

/-- the failing length rules of one JSON class (`str`, `list` without uniqueItems, `dict`) -/
def lenErrorsSrc (jc : String) (decl : List (String × String × String × String)) (validate : List (String × String × String)) (c : Constraints) (n : Nat) :
    Option (List Rule) :=
  match decl with
  | [] => some []
  | (attr, alias, jcls, _) :: rest =>
      if jcls != jc || alias == "pattern" || alias == "uniqueItems" then lenErrorsSrc jc rest validate c n
      else match (exprOf validate (consClass alias)).bind cmpLen, lenRule alias, lenErrorsSrc jc rest validate c n with
        | some ok, some r, some more => some (optRule (lenBound c attr) (fun m => ok n m) r ++ more)
        | _, _, _ => Option.none

theorem numErrorsSrc_nil {v c x} : numErrorsSrc [] v c x = some [] := by rw [numErrorsSrc]

theorem numErrorsSrc_other {attr alias jcls m : String} {rest v c x} (h : jcls ≠ "float") :
    numErrorsSrc ((attr, alias, jcls, m) :: rest) v c x = numErrorsSrc rest v c x := by
  rw [numErrorsSrc, if_pos (by simpa using h)]

theorem numErrorsSrc_float {attr alias m : String} {rest v c x} :
    numErrorsSrc ((attr, alias, "float", m) :: rest) v c x =
      ((exprOf v (consClass alias)).bind cmpNum).bind fun ok => (numRule alias).bind fun r =>
        (numErrorsSrc rest v c x).map fun more => optRule (numBound c attr) (fun m => ok x m) r ++ more := by
  rw [numErrorsSrc, if_neg (by simp)]
  cases (exprOf v (consClass alias)).bind cmpNum <;> cases numRule alias <;> cases numErrorsSrc rest v c x <;> rfl

theorem lenErrorsSrc_nil {jc v c n} : lenErrorsSrc jc [] v c n = some [] := by rw [lenErrorsSrc]

theorem lenErrorsSrc_other {jc attr alias jcls m : String} {rest v c n}
    (h : (jcls != jc || alias == "pattern" || alias == "uniqueItems") = true) :
    lenErrorsSrc jc ((attr, alias, jcls, m) :: rest) v c n = lenErrorsSrc jc rest v c n := by
  rw [lenErrorsSrc, if_pos h]

theorem lenErrorsSrc_row {jc attr alias jcls m : String} {rest v c n}
    (h : (jcls != jc || alias == "pattern" || alias == "uniqueItems") = false) :
    lenErrorsSrc jc ((attr, alias, jcls, m) :: rest) v c n =
      ((exprOf v (consClass alias)).bind cmpLen).bind fun ok => (lenRule alias).bind fun r =>
        (lenErrorsSrc jc rest v c n).map fun more => optRule (lenBound c attr) (fun m => ok n m) r ++ more := by
  rw [lenErrorsSrc, if_neg (by simp [h])]
  cases (exprOf v (consClass alias)).bind cmpLen <;> cases lenRule alias <;> cases lenErrorsSrc jc rest v c n <;> rfl

/-- C01 / C02 / C06 (source tie): the number constraints as declared and as each `validate` is written are the model's `numErrors`, rule by
rule and in the same order (`>=` / `<=` / `>` / `<` on the boundary included) -/
theorem numErrors_matches_source (c : Constraints) (x : Num) :
    numErrorsSrc Generated.cons_decl Generated.cons_validate c x = some (c.numErrors x) := by
  -- the walk first (unfolding `numErrorsSrc` itself would copy the rest of the table into both branches of every row), then the look-ups
  simp only [Generated.cons_decl, numErrorsSrc_nil, numErrorsSrc_other, numErrorsSrc_float, ne_eq, String.reduceEq, not_false_eq_true]
  simp [Generated.cons_validate, exprOf, consClass, cmpNum, numRule, numBound, Constraints.numErrors, List.find?]

theorem strLenErrors_matches_source (c : Constraints) (s : String) :
    lenErrorsSrc "str" Generated.cons_decl Generated.cons_validate c s.length
      = some (optRule c.minLen (fun n => n ≤ s.length) .minLength ++ optRule c.maxLen (fun n => s.length ≤ n) .maxLength) := by
  simp only [Generated.cons_decl, lenErrorsSrc_nil, lenErrorsSrc_other, lenErrorsSrc_row, String.reduceBNe, String.reduceBEq, Bool.or_self,
    Bool.or_true, Bool.or_false]
  -- `rw [f]` takes the equation of `f` at the literal; `simp [f]` unfolds `f` and compares strings in the elaborator
  rw [consClass, consClass, lenRule, lenRule, lenBound, lenBound]
  simp [Generated.cons_validate, exprOf, cmpLen, List.find?]

theorem listLenErrors_matches_source (c : Constraints) (n : Nat) :
    lenErrorsSrc "list" Generated.cons_decl Generated.cons_validate c n
      = some (optRule c.minItems (fun m => m ≤ n) .minItems ++ optRule c.maxItems (fun m => n ≤ m) .maxItems) := by
  simp only [Generated.cons_decl, lenErrorsSrc_nil, lenErrorsSrc_other, lenErrorsSrc_row, String.reduceBNe, String.reduceBEq, Bool.or_self,
    Bool.or_true, Bool.or_false]
  rw [consClass, consClass, lenRule, lenRule, lenBound, lenBound]
  simp [Generated.cons_validate, exprOf, cmpLen, List.find?]

theorem dictErrors_matches_source (c : Constraints) (n : Nat) :
    lenErrorsSrc "dict" Generated.cons_decl Generated.cons_validate c n = some (c.dictErrors n) := by
  simp only [Generated.cons_decl, lenErrorsSrc_nil, lenErrorsSrc_other, lenErrorsSrc_row, String.reduceBNe, String.reduceBEq, Bool.or_self,
    Bool.or_false]
  rw [consClass, consClass, lenRule, lenRule, lenBound, lenBound]
  simp [Generated.cons_validate, exprOf, cmpLen, Constraints.dictErrors, List.find?]

/-- the chain of `merge_constraints` for one attribute: `attr1`, `attr2`, the merge function of the attribute -/
def mergeSrc {α} (chain : List (String × String)) (a b : Option α) (f : α → α → α) : Option (Option α) :=
  match chain with
  | [] => Option.none
  | (test, act) :: rest =>
      let t : Option Bool := match test with
        | "attr1 is None" => some a.isNone | "attr2 is None" => some b.isNone | "else" => some true | _ => Option.none
      match t with
      | Option.none => Option.none
      | some false => mergeSrc rest a b f
      | some true =>
          match act with
          | "constraints[name] = attr2" => some b
          | "constraints[name] = attr1" => some a
          | "constraints[name] = metadata.merge(attr1, attr2)" => (match a, b with | some x, some y => some (some (f x y)) | _, _ => Option.none)
          | _ => Option.none

/-- C01 / C06 (source tie): an attribute set on one side only is kept whatever its value (0 included); set on both sides, the declared merge
function decides -/
theorem mergeSrc_spec {α} (a b : Option α) (f : α → α → α) :
    mergeSrc Generated.cons_mergeChain a b f =
      some (match a, b with | Option.none, b => b | a, Option.none => a | some x, some y => some (f x y)) := by
  cases a <;> cases b <;> simp [mergeSrc, Generated.cons_mergeChain]

def maxNum (x y : Num) : Num := if x.le y then y else x
def minNum (x y : Num) : Num := if x.le y then x else y
def mergeFn : String → Option (Num → Num → Num)
  | "max_" => some maxNum | "min_" => some minNum | _ => Option.none
def declMerge (decl : List (String × String × String × String)) (attr : String) : Option String :=
  (decl.find? (fun e => e.1 == attr)).map (fun e => e.2.2.2)

theorem mergeSrc_max (a b : Option Num) : mergeSrc Generated.cons_mergeChain a b maxNum = some (minOpt Num.le a b false) := by
  rw [mergeSrc_spec]; cases a <;> cases b <;> simp [minOpt, maxNum]; split <;> simp_all

theorem mergeSrc_min (a b : Option Num) : mergeSrc Generated.cons_mergeChain a b minNum = some (minOpt Num.le a b true) := by
  rw [mergeSrc_spec]; cases a <;> cases b <;> simp [minOpt, minNum]; split <;> simp_all

/-- the model's merge of the four bounds is the chain with the declared merge functions (`min` / `exc_min` keep the larger, `max` / `exc_max`
the smaller) -/
theorem merge_bounds_match_source (a b : Constraints) :
    declMerge Generated.cons_decl "min" = some "max_" ∧ declMerge Generated.cons_decl "exc_min" = some "max_" ∧
    declMerge Generated.cons_decl "max" = some "min_" ∧ declMerge Generated.cons_decl "exc_max" = some "min_" ∧
    mergeSrc Generated.cons_mergeChain a.min b.min maxNum = some (a.merge b).min ∧
    mergeSrc Generated.cons_mergeChain a.excMin b.excMin maxNum = some (a.merge b).excMin ∧
    mergeSrc Generated.cons_mergeChain a.max b.max minNum = some (a.merge b).max ∧
    mergeSrc Generated.cons_mergeChain a.excMax b.excMax minNum = some (a.merge b).excMax :=
  ⟨by decide +kernel, by decide +kernel, by decide +kernel, by decide +kernel,
   mergeSrc_max _ _, mergeSrc_max _ _, mergeSrc_min _ _, mergeSrc_min _ _⟩

/-- the statements of `merge_constraints` and `constraints_validators` that `mergeSrc`, `numErrorsSrc` and `lenErrorsSrc` build in
rather than read (loop header, skip test, class look-up, append in order, the copy `float` -> `int`), compared as text -/
theorem constraints_pinned :
    Generated.cons_mergePre = "(name, attr1, metadata) in c1.attr_and_metata ; attr2 = getattr(c2, name)" ∧
    Generated.cons_skip = "attr is None or attr is False" ∧
    Generated.cons_lookup = "constraint_classes[to_pascal_case(metadata.alias) + 'Constraint']" ∧
    Generated.cons_append = "result[metadata.cls] = (*result[metadata.cls], constraint_cls(error, attr))" ∧
    Generated.cons_intCopy = "float in result => result[int] = result[float]" :=
  ⟨rfl, rfl, rfl, rfl, rfl⟩

end Api
