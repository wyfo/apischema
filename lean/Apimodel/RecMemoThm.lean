import Apimodel.Rec
/-! The memo of the recursion analysis and the default conversion (C03 / C09-style staleness; repair of row 73).

What a type reaches depends on the default conversion in force (`Foo` may be converted from `int` under one and from `Node` under another), so
the analysed graph is a function of the default conversion.  Before the repair the memo (`recursion_cache`) was one dictionary per checker class,
shared by every default conversion: an answer recorded under one graph was read under another.  `shared_memo_counterexample` replays the
defect in the model (the second analysis answers "not recursive" for a type that is recursive in its own graph, and deserialization then
compiles it without `RecMethod` and overflows the stack); `memo_per_context` is the repaired protocol: one memo per context, an analysis in one
context never changes what another context reads. -/
namespace Api.Rec

def analyse (g : Graph) (c : Cache) (n : Node) (fuel : Nat) : Cache × Local :=
  (List.range fuel).foldl (fun (s : Cache × Local) _ => step g s.1 s.2) (c, { start := some n })

/-- `Node(v: int, child: Optional[Foo])` = 0, `int` = 1, `Optional[Foo]` = 2; under the first default conversion `Foo` is converted from `int` (3) -/
def gInt : Graph := [(0, [1, 2]), (1, []), (2, [3]), (3, [])]
/-- under the second one `Foo` is converted from `Node` -/
def gNode : Graph := [(0, [1, 2]), (1, []), (2, [0])]

theorem shared_memo_counterexample :
    -- a cold analysis in the second context: recursive
    (analyse gNode [] 0 40).2.done = true ∧ (analyse gNode [] 0 40).1.get? 0 = some true ∧
    -- the same analysis reading the memo left by the first context: the stale "not recursive"
    (analyse gInt [] 0 40).2.done = true ∧
    (analyse gNode (analyse gInt [] 0 40).1 0 40).2.done = true ∧ (analyse gNode (analyse gInt [] 0 40).1 0 40).1.get? 0 = some false := by
  decide +kernel

/-- `Ctx`: the default conversion -/
def Memos (Ctx : Type) := Ctx → Cache

def analyseIn {Ctx : Type} [DecidableEq Ctx] (graph : Ctx → Graph) (m : Memos Ctx) (k : Ctx) (n : Node) (fuel : Nat) : Memos Ctx :=
  fun k' => if k' = k then (analyse (graph k) (m k) n fuel).1 else m k'

/-- The repaired protocol: an analysis under one default conversion leaves the memo of every other one as it was, and its own result is the one
of an analysis that has only ever seen its own graph. -/
theorem memo_per_context {Ctx : Type} [DecidableEq Ctx] (graph : Ctx → Graph) (m : Memos Ctx) (k : Ctx) (n : Node) (fuel : Nat) :
    (∀ k', k' ≠ k → analyseIn graph m k n fuel k' = m k') ∧ analyseIn graph m k n fuel k = (analyse (graph k) (m k) n fuel).1 :=
  ⟨fun _ h => if_neg h, if_pos rfl⟩

theorem memo_history_invisible {Ctx : Type} [DecidableEq Ctx] (graph : Ctx → Graph) (k : Ctx) :
    ∀ (hist : List (Ctx × Node × Nat)) (m : Memos Ctx), (∀ h ∈ hist, h.1 ≠ k) →
      (hist.foldl (fun m h => analyseIn graph m h.1 h.2.1 h.2.2) m) k = m k :=
  fun hist m hk => List.foldlRecOn (motive := fun m' => m' k = m k) hist _ rfl fun m' ih h hh =>
    ((memo_per_context graph m' h.1 h.2.1 h.2.2).1 k (hk h hh).symm).trans ih

/-- the replayed defect disappears: with one memo per context the second context answers as a cold start does -/
example : (analyseIn (fun b : Bool => if b then gNode else gInt) (analyseIn (fun b : Bool => if b then gNode else gInt) (fun _ => []) false 0 40) true 0 40) true
    = (analyse gNode [] 0 40).1 := by decide +kernel

end Api.Rec
