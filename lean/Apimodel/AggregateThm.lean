import Apimodel.Aggregate
import Apimodel.Generated.AggSrc
/-! The attribution of keys to aggregate fields (C01: "no unexpected property unless allowed", pattern / additional properties). -/
namespace Api.Agg

theorem mem_sub {xs ys : List String} {k : String} : k ∈ sub xs ys ↔ k ∈ xs ∧ k ∉ ys := by
  simp [sub, List.mem_filter]

theorem patLoop_remain : ∀ (ps : List (String → Bool)) (r : List String) (k : String),
    k ∈ (patLoop ps r).2 ↔ k ∈ r ∧ ∀ p ∈ ps, p k = false
  | [], r, k => by simp [patLoop]
  | p :: ps, r, k => by
    simp only [patLoop]
    rw [patLoop_remain ps _ k]
    simp only [List.mem_filter, Bool.not_eq_true', List.mem_cons, forall_eq_or_imp, and_assoc]

theorem firstIdx_eq_findIdx? (k : String) : ∀ ps : List (String → Bool), firstIdx ps k = ps.findIdx? (· k)
  | [] => rfl
  | p :: ps => by rw [firstIdx, List.findIdx?_cons, firstIdx_eq_findIdx? k ps]

theorem firstIdx_none {ps : List (String → Bool)} {k : String} : firstIdx ps k = none ↔ ∀ p ∈ ps, p k = false := by
  rw [firstIdx_eq_findIdx?, List.findIdx?_eq_none_iff]

theorem firstIdx_cons_zero {p : String → Bool} {ps : List (String → Bool)} {k : String} :
    firstIdx (p :: ps) k = some 0 ↔ p k = true := by
  rw [firstIdx]
  cases p k <;> simp

theorem firstIdx_cons_succ {p : String → Bool} {ps : List (String → Bool)} {k : String} {i : Nat} :
    firstIdx (p :: ps) k = some (i + 1) ↔ p k = false ∧ firstIdx ps k = some i := by
  rw [firstIdx]
  cases p k <;> simp

/-- first match: the `i`-th group is made of the unattributed keys whose first matching pattern is the `i`-th -/
theorem patLoop_first : ∀ (ps : List (String → Bool)) (r : List String) (i : Nat) (k : String),
    (∃ g, (patLoop ps r).1[i]? = some g ∧ k ∈ g) ↔ k ∈ r ∧ firstIdx ps k = some i
  | [], r, i, k => by simp [patLoop, firstIdx]
  | p :: ps, r, 0, k => by
    simp only [patLoop, List.getElem?_cons_zero, Option.some.injEq, exists_eq_left', List.mem_filter, firstIdx_cons_zero]
  | p :: ps, r, i + 1, k => by
    simp only [patLoop, List.getElem?_cons_succ]
    rw [patLoop_first ps _ i k, firstIdx_cons_succ, List.mem_filter, Bool.not_eq_true', and_assoc]

/-- nothing is lost -/
theorem patLoop_cover (ps : List (String → Bool)) (r : List String) (k : String) :
    k ∈ r ↔ (k ∈ (patLoop ps r).2 ∨ ∃ (i : Nat) (g : List String), (patLoop ps r).1[i]? = some g ∧ k ∈ g) := by
  constructor
  · intro hk
    cases hf : firstIdx ps k with
    | none => exact Or.inl ((patLoop_remain ps r k).2 ⟨hk, firstIdx_none.1 hf⟩)
    | some i => exact Or.inr ⟨i, (patLoop_first ps r i k).2 ⟨hk, hf⟩⟩
  · rintro (h | ⟨i, h⟩)
    · exact ((patLoop_remain ps r k).1 h).1
    · exact ((patLoop_first ps r i k).1 h).1

/-- nothing is attributed twice: a key of a group is not left over, and belongs to no other group -/
theorem patLoop_disjoint (ps : List (String → Bool)) (r : List String) (k : String) (i : Nat)
    (h : ∃ g, (patLoop ps r).1[i]? = some g ∧ k ∈ g) :
    k ∉ (patLoop ps r).2 ∧ ∀ j, (∃ g, (patLoop ps r).1[j]? = some g ∧ k ∈ g) → j = i := by
  -- the first pattern that matches `k` is the `i`-th: it is not none, and not another
  have hi := ((patLoop_first ps r i k).1 h).2
  refine ⟨fun hr => ?_, fun j hj => ?_⟩
  · rw [firstIdx_none.2 ((patLoop_remain ps r k).1 hr).2] at hi; cases hi
  · exact Option.some.inj (((patLoop_first ps r j k).1 hj).2.symm.trans hi)

theorem flatLoop_remain (keys : List String) : ∀ (fls : List (List String)) (r : List String) (k : String),
    k ∈ (flatLoop keys fls r).2 ↔ k ∈ r ∧ ∀ fl ∈ fls, ¬ (k ∈ fl ∧ k ∈ keys)
  | [], r, k => by simp [flatLoop]
  | fl :: fls, r, k => by
    simp only [flatLoop]
    rw [flatLoop_remain keys fls _ k, mem_sub]
    simp only [List.mem_filter, List.contains_iff_mem, List.mem_cons, forall_eq_or_imp, and_assoc]

theorem flatLoop_fst (keys : List String) : ∀ (fls : List (List String)) (r : List String),
    (flatLoop keys fls r).1 = fls.map (·.filter (keys.contains ·))
  | [], _ => rfl
  | _ :: fls, _ => congrArg (_ :: ·) (flatLoop_fst keys fls _)

/-- what the flattened fields take: the keys of the datum among their own aliases (whatever the earlier fields took) -/
theorem flatLoop_takes (keys : List String) : ∀ (fls : List (List String)) (r : List String) (i : Nat) (k : String),
    (∃ g, (flatLoop keys fls r).1[i]? = some g ∧ k ∈ g) ↔ ∃ fl, fls[i]? = some fl ∧ k ∈ fl ∧ k ∈ keys := by
  intro fls r i k
  rw [flatLoop_fst, List.getElem?_map]
  cases fls[i]? <;> simp [List.mem_filter]

theorem mem_left (s : Spec) (pats : List (String → Bool)) (keys : List String) (k : String) :
    k ∈ (patLoop pats (flatLoop keys s.flattened (sub keys s.aliases)).2).2 ↔
      k ∈ keys ∧ k ∉ s.aliases ∧ (∀ fl ∈ s.flattened, k ∉ fl) ∧ ∀ p ∈ pats, p k = false := by
  rw [patLoop_remain, flatLoop_remain, mem_sub]
  constructor
  · rintro ⟨⟨⟨h1, h2⟩, h3⟩, h4⟩
    exact ⟨h1, h2, fun fl hfl hk => h3 fl hfl ⟨hk, h1⟩, h4⟩
  · rintro ⟨h1, h2, h3, h4⟩
    exact ⟨⟨⟨h1, h2⟩, fun fl hfl hk => h3 fl hfl hk.1⟩, h4⟩

/-- C01 (aggregate part): without an additional-properties field the unexpected keys are exactly the keys of the datum that are no alias, that no
flattened class declares and that no pattern matches; with one there is none -/
theorem attrib_unexpected (s : Spec) (pats : List (String → Bool)) (keys : List String) (k : String) :
    k ∈ (attrib s pats keys).unexpected ↔
      s.additional = false ∧ k ∈ keys ∧ k ∉ s.aliases ∧ (∀ fl ∈ s.flattened, k ∉ fl) ∧ ∀ p ∈ pats, p k = false := by
  rw [← mem_left, attrib]
  cases s.additional <;> simp

/-- ... and the keys given to the additional-properties field are those same keys -/
theorem attrib_additional (s : Spec) (pats : List (String → Bool)) (keys : List String) (k : String) (h : s.additional = true) :
    (∃ g, (attrib s pats keys).additional = some g ∧ k ∈ g) ↔
      k ∈ keys ∧ k ∉ s.aliases ∧ (∀ fl ∈ s.flattened, k ∉ fl) ∧ ∀ p ∈ pats, p k = false := by
  rw [← mem_left, attrib]
  simp only [h, if_true, Option.some.injEq, exists_eq_left']

/-- non-vacuity: two overlapping patterns (`^p_x` before `^p_`), a flattened class declaring `x` and `p_z`, no additional field -/
example :
    let a := attrib { aliases := ["a"], flattened := [["x", "p_z"]], additional := false }
      [fun k => k.startsWith "p_x", fun k => k.startsWith "p_"] ["a", "p_x1", "p_y", "p_z", "zz", "x"]
    a.flattened = [["x", "p_z"]] ∧ a.matched = [["p_x1"], ["p_y"]] ∧ a.unexpected = ["zz"] := by decide +kernel

/-- Source tie: the aggregate branch of the working tree is the three steps of `attrib`, in this order - the flattened fields read the *datum*
(`if alias in data`) and remove what they took from `remain`; the pattern fields read `remain` and remove what they matched; the additional field takes
`remain`; otherwise (`elif remain`) what is left is unexpected - starting from `data.keys() - self.all_aliases`. -/
theorem agg_steps_pinned :
    Generated.agg_remain0 = "data.keys() - self.all_aliases" ∧
    Generated.agg_steps = [
      ["for flattened_field in self.flattened_fields", "{alias: data[alias] for alias in flattened_field.aliases if alias in data}", "remain.difference_update(flattened)"],
      ["for pattern_field in self.pattern_fields", "{key: data[key] for key in remain if pattern_field.pattern.match(key)}", "remain.difference_update(matched)"],
      ["if self.additional_field is not None", "{key: data[key] for key in remain}", "NONE", "elif remain"]] :=
  ⟨rfl, rfl⟩

end Api.Agg
