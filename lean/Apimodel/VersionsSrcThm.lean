import Apimodel.Versions
import Apimodel.Generated.VersionsSrc
/-! Source tie of the dialect rewrites (C18): `to_json_schema_2019_09` and `to_json_schema_7` are read from the working tree as straight-line
dict programs (`Generated/VersionsSrc.lean`); on the array keywords of a schema node the 2019-09 program does what the typed model `to07` does (`to2019_keys_match`), and the draft-07 program
leaves no 2020-12-only keyword and no `$ref` with siblings.  `isolate_ref`, whose effect on the keys is written by hand (`isolateRefKeys`), is
compared as text; `to_open_api_3_0` is extracted (`ver_toOas30Src`) and nothing is stated about it. -/
namespace Api

def run2019 : Keys → Option Keys := runDOps (fun _ => Option.none) Generated.ver_to2019

def callee7 : String → Option (Keys → Option Keys)
  | "to_json_schema_2019_09" => some run2019
  | _ => Option.none

def run7 : Keys → Option Keys := runDOps callee7 Generated.ver_to7

/-- the array keywords of a 2020-12 node -/
def arrKeys (items : Option (Bool ⊕ Sch)) (pre : Option (List Sch)) : Keys :=
  (if pre.isSome then ["prefixItems"] else []) ++ (if items.isSome then ["items"] else [])

/-- the array keywords of a converted node -/
def arrKeys07 : S07 → Keys
  | .mk _ _ _ _ one arr addi kept _ _ _ _ _ _ =>
      (if kept.isSome then ["prefixItems"] else []) ++ (if one.isSome || arr.isSome then ["items"] else []) ++
      (if addi.isSome then ["additionalItems"] else [])

theorem Keys.mem_ins {k k' : String} {s : Keys} : k' ∈ Keys.ins k s ↔ k' ∈ s ∨ k' = k := by
  unfold Keys.ins; split <;> simp_all

theorem Keys.nodup_ins {k : String} {s : Keys} (h : s.Nodup) : (Keys.ins k s).Nodup := by
  unfold Keys.ins; split
  · exact h
  · rename_i hk
    exact List.nodup_append.2 ⟨h, List.nodup_cons.2 ⟨List.not_mem_nil, List.nodup_nil⟩, fun a ha b hb e => hk (by simp_all)⟩

/-- `if a in d: d[b] = d.pop(a)` on the keys: what `ifHas a [move a b]` and `ifHas a [mergeMove a b]` do -/
def Keys.mv (a b : String) (s : Keys) : Keys := if s.contains a then Keys.ins b (s.erase a) else s

/-- on distinct keys `mv a b` renames `a` to `b`: `erase` removes the one occurrence of `a` -/
theorem Keys.mem_mv {a b k : String} {s : Keys} (h : s.Nodup) : k ∈ Keys.mv a b s ↔ k ≠ a ∧ k ∈ s ∨ k = b ∧ a ∈ s := by
  unfold Keys.mv; split <;> rename_i ha <;> simp at ha
  · simp [Keys.mem_ins, h.mem_erase_iff, ha]
  · simp [ha]; intro hk; rintro rfl; exact ha hk

theorem Keys.nodup_mv {a b : String} {s : Keys} (h : s.Nodup) : (Keys.mv a b s).Nodup := by
  unfold Keys.mv; split
  · exact Keys.nodup_ins (h.erase a)
  · exact h

theorem Keys.length_mv_le (a b : String) (s : Keys) : (Keys.mv a b s).length ≤ s.length := by
  unfold Keys.mv Keys.ins; split <;> rename_i ha <;> simp at ha
  · have := List.length_pos_of_mem ha
    split <;> simp [List.length_erase_of_mem ha] <;> omega
  · simp

theorem runDOps_nil (c : String → Option (Keys → Option Keys)) (s : Keys) : runDOps c [] s = some s := by rw [runDOps]

theorem runDOps_cons (c : String → Option (Keys → Option Keys)) (op : DOp) (rest : List DOp) (s : Keys) :
    runDOps c (op :: rest) s = (runDOp c op s).bind (runDOps c rest) := by
  rw [runDOps]; cases runDOp c op s <;> rfl

theorem runDOp_ifHas_move (c : String → Option (Keys → Option Keys)) (a b : String) (s : Keys) :
    runDOp c (.ifHas a [.move a b]) s = some (Keys.mv a b s) := by
  simp only [runDOp, runDOps, Keys.mv]; split <;> simp [*]

theorem runDOp_ifHas_mergeMove (c : String → Option (Keys → Option Keys)) (a b : String) (s : Keys) :
    runDOp c (.ifHas a [.mergeMove a b]) s = some (Keys.mv a b s) := by
  simp only [runDOp, runDOps, Keys.mv]; split <;> simp [*]

theorem runDOp_move (c : String → Option (Keys → Option Keys)) {a b : String} {s : Keys} (h : a ∈ s) :
    runDOp c (.move a b) s = some (Keys.mv a b s) := by
  simp [runDOp, Keys.mv, h]

theorem isolateRefKeys_eq (s : Keys) : isolateRefKeys s = if 1 < s.length then Keys.mv "$ref" "allOf" s else s := by
  unfold isolateRefKeys Keys.mv; cases s.contains "$ref" <;> simp

def to2019K (s : Keys) : Keys :=
  if s.contains "prefixItems" then Keys.mv "prefixItems" "items" (Keys.mv "items" "additionalItems" s) else s

theorem run2019_eq {s : Keys} (h : s.Nodup) : run2019 s = some (to2019K s) := by
  unfold run2019 to2019K Generated.ver_to2019
  -- `↓`: the inner `ifHas "items" [move …]` is read as a whole, before `runDOp.eq_3` opens it
  simp only [runDOps_cons, runDOp.eq_1, runDOp.eq_7, runDOp.eq_3, ↓runDOp_ifHas_move, Option.bind_some]
  split <;> rename_i hp
  · rw [runDOp_move _ ((Keys.mem_mv h).2 (.inl ⟨by decide, by simpa using hp⟩))]; rfl
  · rfl

/-- C18 (source tie): on the array keywords of any schema node, the program read from `to_json_schema_2019_09` produces the keys of the typed
model's `to07` (since the repair of row 18: `prefixItems` is moved, not copied) -/
theorem to2019_keys_match (ty : List JT) (const : Option Lit) (enum : List Lit) (cons : Constraints) (items : Option (Bool ⊕ Sch))
    (pre : Option (List Sch)) (props : List (String × Sch)) (req : List String) (addl : Option (Bool ⊕ Sch)) (pats : List (Pat × Sch))
    (anyOf : List Sch) (dflt : Option Py) :
    ∃ ks, run2019 (arrKeys items pre) = some ks ∧
      (let m := arrKeys07 (to07 { keepsPrefixItems := false } (.mk ty const enum cons items pre props req addl pats anyOf dflt))
       ks.contains "prefixItems" = m.contains "prefixItems" ∧ ks.contains "items" = m.contains "items" ∧
       ks.contains "additionalItems" = m.contains "additionalItems") := by
  -- the program on these (distinct) keys is its closed form `to2019K`: nothing is run
  refine ⟨_, run2019_eq (by cases pre <;> cases items <;> simp [arrKeys]), ?_⟩
  cases pre <;> cases items
  case none.none | some.none =>
    simp [to2019K, Keys.mv, Keys.ins, arrKeys, to07, to07I, to07Pre, selItemsOne, selAdditional, selKept, arrKeys07]
  -- whether `items` holds a Boolean or a schema matters to the model alone
  all_goals rename_i i; cases i <;>
    simp [to2019K, Keys.mv, Keys.ins, arrKeys, to07, to07I, to07Pre, selItemsOne, selAdditional, selKept, arrKeys07]

theorem run7_eq {s : Keys} (h : s.Nodup) :
    run7 s = some (Keys.mv "dependentRequired" "dependencies" (Keys.mv "$defs" "definitions" (isolateRefKeys (to2019K s)))) := by
  unfold run7 Generated.ver_to7
  simp only [runDOps_cons, runDOps_nil, runDOp.eq_2, callee7, run2019_eq h, runDOp.eq_6, runDOp.eq_7, runDOp_ifHas_mergeMove,
    Option.bind_some]

/-- C18 (source tie, key level), on any node with distinct keys -/
theorem run7_vocabulary {s : Keys} (h : s.Nodup) : ∃ ks, run7 s = some ks ∧ ("$ref" ∈ ks → ks.length = 1) ∧
    "prefixItems" ∉ ks ∧ "$defs" ∉ ks ∧ "dependentRequired" ∉ ks ∧
    ("$defs" ∈ s → "definitions" ∈ ks) ∧ ("dependentRequired" ∈ s → "dependencies" ∈ ks) ∧ ("prefixItems" ∈ s → "items" ∈ ks) ∧
    ("prefixItems" ∈ s → "items" ∈ s → "additionalItems" ∈ ks) ∧ ("type" ∈ s → "type" ∈ ks) := by
  have h1 : (to2019K s).Nodup := by unfold to2019K; split <;> simp [Keys.nodup_mv, h]
  have h2 : (isolateRefKeys (to2019K s)).Nodup := by rw [isolateRefKeys_eq]; split <;> simp [Keys.nodup_mv, h1]
  -- `isolate_ref` leaves no `$ref` with siblings and touches no key but `$ref` and `allOf`
  have hr : "$ref" ∈ isolateRefKeys (to2019K s) → (isolateRefKeys (to2019K s)).length ≤ 1 := by
    rw [isolateRefKeys_eq]; split
    · simp [Keys.mem_mv h1]
    · omega
  have hk : ∀ k, k ≠ "$ref" → k ≠ "allOf" → (k ∈ isolateRefKeys (to2019K s) ↔ k ∈ to2019K s) := by
    intro k k1 k2; rw [isolateRefKeys_eq]; split <;> simp [Keys.mem_mv h1, k1, k2]
  refine ⟨_, run7_eq h, fun hm => ?_, ?_⟩
  · have := List.length_pos_of_mem hm
    have := hr (by simpa [Keys.mem_mv, Keys.nodup_mv, h2] using hm)
    have := Keys.length_mv_le "dependentRequired" "dependencies" (Keys.mv "$defs" "definitions" (isolateRefKeys (to2019K s)))
    have := Keys.length_mv_le "$defs" "definitions" (isolateRefKeys (to2019K s))
    omega
  · simp [Keys.mem_mv, Keys.nodup_mv, h2, hk]
    by_cases hp : "prefixItems" ∈ s <;> simp +contextual [to2019K, hp, Keys.mem_mv, Keys.nodup_mv, h]

def subsets : List String → List (List String)
  | [] => [[]]
  | x :: xs => (subsets xs).map (x :: ·) ++ subsets xs

/-- keywords the two rewrites read or write (all but `additionalItems`, which the 2019-09 rewrite writes), and one keyword they do not -/
def rewriteKeys : List String :=
  ["prefixItems", "items", "$defs", "definitions", "dependentRequired", "dependencies", "$ref", "allOf", "type"]

theorem sublist_of_mem_subsets {l s : List String} : s ∈ subsets l → s.Sublist l := by
  induction l generalizing s with
  | nil => simp [subsets]
  | cons x xs ih =>
      simp only [subsets, List.mem_append, List.mem_map]
      rintro (⟨s', hs', rfl⟩ | hs)
      · exact (ih hs').cons_cons x
      · exact (ih hs).cons x

/-- C18 (source tie, key level): on every subset of these keywords the draft-07 program runs to the end (it pops no absent key, contains no
statement the interpreter does not know), leaves none of the 2020-12 spellings, keeps `$ref` only when it stands alone, and moves rather than drops -/
theorem to7_vocabulary :
    ((subsets rewriteKeys).all (fun s => match run7 s with
      | some ks => !ks.contains "prefixItems" && !ks.contains "$defs" && !ks.contains "dependentRequired" &&
                   (!ks.contains "$ref" || ks.length == 1) &&
                   (!s.contains "$defs" || ks.contains "definitions") &&
                   (!s.contains "dependentRequired" || ks.contains "dependencies") &&
                   (!s.contains "prefixItems" || ks.contains "items") &&
                   (!(s.contains "prefixItems" && s.contains "items") || ks.contains "additionalItems") &&
                   (!s.contains "type" || ks.contains "type")
      | Option.none => false)) = true := by
  rw [List.all_eq_true]; intro s hs
  obtain ⟨ks, e, p1, p⟩ := run7_vocabulary ((sublist_of_mem_subsets hs).nodup (by decide +kernel : rewriteKeys.Nodup))
  rw [e]; simpa [Decidable.imp_iff_not_or, and_assoc, or_assoc, Decidable.not_or_of_imp p1] using p

/-- `isolate_ref` as `isolateRefKeys` was written against it -/
theorem versions_pinned :
    Generated.ver_isolateRefSrc = "if '$ref' in schema and len(schema) > 1:\n    schema.setdefault('allOf', []).append({'$ref': schema.pop('$ref')})" := rfl

end Api
