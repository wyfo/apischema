import Apimodel.RecSeq
/-! # Soundness of the recursion analysis: whatever is written `True` lies on a cycle

For every type graph, in every state reached by any history of calls (`true_sound`) or by any schedule of two checkers sharing one memo, without the lock
(`true_sound_concurrent`, about `runSched`; the locked machine of `Rec.lean` is not mentioned), an entry `True` of the memo is a node that reaches itself: `RecMethod` (lazy compilation) is only ever
introduced for a type that is recursive.  The proof is an invariant of `step` (`LSound`, `CSound`): the guard of a checker is a path of the graph, the keys it has recorded
and the writes it has pending lie on cycles.  The converse (`False` ⇒ on no cycle — the direction whose failure is row 96) is *not* proved; it
is decided on generated graphs by the correspondence and the reference closure (`rec_graph.py`).

Invariants a proof of the converse would need (one checker, started on a memo that is exact and closed under children).  With `cachedE x` := `x` in the
memo or among the pending writes, `G` the guard, `Pend y` := `y` recorded under a head that is still on `G`:
(1) no node of `G` is `cachedE`, `G` has no duplicate;  (2) *closure*: every child of a `cachedE` node is `cachedE`;
(3) *frames*: a visited child of a frame's node is `cachedE`, on `G`, or `Pend`; if it is on `G` at or below the frame, the frame's node is recorded under it;
(4) recorded keys reach, and are reached by, their head (the `Reach` facts behind `seg_onCycle`);
(5) at a root exit (no outer key of `G` has recorded the head) the children of the written set are written or `cachedE` - the step that needs the
    re-exploration argument: a `Pend` child is descended again and re-discovers a path to `G`, because by (2) no node on its former path can have been cached;
(6) a `False` write for `n` then has every child `cachedE`, so by (2) `n`, which by (1) was not `cachedE`, is reachable from none of them: `n` is on no cycle. -/
namespace Api.Rec

def Edge (g : Graph) (a b : Node) : Prop := b ∈ children g a

theorem edge_entry {g : Graph} {a b : Node} (h : Edge g a b) : ∃ cs, (a, cs) ∈ g ∧ b ∈ cs := by
  unfold Edge children at h
  split at h
  · next k cs hf =>
    obtain rfl : k = a := by simpa using List.find?_some hf
    exact ⟨cs, List.mem_of_find?_eq_some hf, h⟩
  · cases h

inductive Reach (g : Graph) : Node → Node → Prop
  | refl (a : Node) : Reach g a a
  | step {a b c : Node} : Edge g a b → Reach g b c → Reach g a c

theorem Reach.trans {g : Graph} {a b c : Node} (h1 : Reach g a b) (h2 : Reach g b c) : Reach g a c := by
  induction h1 with
  | refl => exact h2
  | step e _ ih => exact .step e (ih h2)

def OnCycle (g : Graph) (n : Node) : Prop := ∃ m, Edge g n m ∧ Reach g m n

theorem onCycle_of {g : Graph} {x t n : Node} (h1 : Reach g x t) (e : Edge g t n) (h2 : Reach g n x) : OnCycle g x := by
  cases h1 with
  | refl => exact ⟨n, e, h2⟩
  | step e' r => exact ⟨_, e', r.trans (.step e h2)⟩

def Chain (g : Graph) : List Node → Prop
  | [] => True
  | [_] => True
  | a :: b :: r => Edge g a b ∧ Chain g (b :: r)

theorem chain_append {g : Graph} : ∀ {l₁ l₂ : List Node},
    Chain g (l₁ ++ l₂) ↔ Chain g l₁ ∧ Chain g l₂ ∧ ∀ a ∈ l₁.getLast?, ∀ b ∈ l₂.head?, Edge g a b
  | [], _ => by simp [Chain]
  | [a], [] => by simp [Chain]
  | [a], b :: _ => by simp [Chain, and_comm]
  | a :: b :: r, l₂ => by
    have ih := chain_append (g := g) (l₁ := b :: r) (l₂ := l₂)
    simp only [List.cons_append] at ih
    simp only [List.cons_append, Chain, ih, List.getLast?_cons_cons, and_assoc]

theorem chain_reach {g : Graph} : ∀ (p : List Node) (a c : Node), Chain g (a :: p) → (a :: p).getLast? = some c →
    ∀ x ∈ a :: p, Reach g a x ∧ Reach g x c
  | [], a, c, _, hl, x, hx => by
    obtain rfl : a = c := by simpa using hl
    obtain rfl : x = a := by simpa using hx
    exact ⟨.refl _, .refl _⟩
  | b :: p, a, c, hc, hl, x, hx => by
    have ih := chain_reach p b c hc.2 (by rwa [List.getLast?_cons_cons] at hl)
    rcases List.mem_cons.1 hx with rfl | hx
    · exact ⟨.refl _, .step hc.1 (ih b (List.mem_cons_self ..)).2⟩
    · exact ⟨.step hc.1 (ih x hx).1, (ih x hx).2⟩

/-- the recorded segment `guard[index(n):]` lies on a cycle once the top of the guard has an edge to `n` -/
theorem seg_onCycle {g : Graph} (guard : List Node) (n t : Node) (hc : Chain g guard) (hl : guard.getLast? = some t)
    (e : Edge g t n) : ∀ x ∈ guard.dropWhile (· != n), OnCycle g x := by
  intro x hx
  -- the segment is a suffix `n :: ys` of the guard: a chain from `n` to `t`, closed by `e`
  cases hseg : guard.dropWhile (· != n) with
  | nil => rw [hseg] at hx; cases hx
  | cons y ys =>
    obtain rfl : y = n := by simpa [hseg] using List.head?_dropWhile_not (· != n) guard
    rw [← List.takeWhile_append_dropWhile (p := (· != y)) (l := guard), hseg] at hc hl
    have ⟨r1, r2⟩ := chain_reach ys y t (chain_append.1 hc).2.1 (by simpa using hl) x (hseg ▸ hx)
    exact onCycle_of r2 e r1

def guardOf (st : List Frame) : List Node := (st.map (·.node)).reverse

theorem guardOf_cons (f : Frame) (st : List Frame) : guardOf (f :: st) = guardOf st ++ [f.node] := by
  simp [guardOf]

structure LSound (g : Graph) (l : Local) : Prop where
  chain : Chain g (guardOf l.stack)
  todo : ∀ f ∈ l.stack, ∀ x ∈ f.todo, Edge g f.node x
  fresh : l.start.isSome = true → l.stack = []
  recOf : ∀ p ∈ l.recOf, ∀ x ∈ p.2, OnCycle g x
  writes : ∀ p ∈ l.writes, p.2 = true → OnCycle g p.1

def CSound (g : Graph) (c : Cache) : Prop := ∀ p ∈ c, p.2 = true → OnCycle g p.1

theorem addRec_all {P : Node → Prop} {r : List (Node × List Node)} {k : Node} {seg : List Node}
    (hr : ∀ p ∈ r, ∀ x ∈ p.2, P x) (hs : ∀ x ∈ seg, P x) : ∀ p ∈ addRec r k seg, ∀ x ∈ p.2, P x := by
  intro p hp x hx
  unfold addRec at hp
  split at hp
  · next hf =>
    rcases List.mem_cons.1 hp with rfl | hpt
    · rcases List.mem_append.1 hx with h1 | h2
      · exact hr _ (List.mem_of_find?_eq_some hf) x h1
      · exact hs x (List.mem_filter.1 h2).1
    · exact hr p (List.mem_filter.1 hpt).1 x hx
  · rcases List.mem_cons.1 hp with rfl | hpt
    · exact hs x hx
    · exact hr p hpt x hx

theorem enter_sound {g : Graph} {c : Cache} {l : Local} {n : Node} (hl : LSound g l) (hs : l.start = none)
    (he : ∀ t, (guardOf l.stack).getLast? = some t → Edge g t n) : LSound g (enter g c l n) := by
  fun_cases enter g c l n
  · exact hl
  · next hcont _ =>
    -- `n` is on the guard, so the guard has a top, and the edge from it to `n` closes the segment from `n` on
    have ht := List.getLast?_eq_some_getLast (List.ne_nil_of_mem (List.contains_iff_mem.1 hcont))
    exact { hl with recOf := addRec_all hl.recOf (seg_onCycle _ n _ hl.chain ht (he _ ht)) }
  · exact { hl with
      chain := guardOf_cons .. ▸ chain_append.2 ⟨hl.chain, trivial, fun t ht _ hb => by cases hb; exact he t ht⟩
      todo := List.forall_mem_cons.2 ⟨fun _ hx => hx, hl.todo⟩
      fresh := fun h => by rw [hs] at h; cases h }

theorem exitFix_sound {g : Graph} {l : Local} {n : Node} {rest : List Frame} (hl : LSound g l)
    (hst : l.stack = ⟨n, []⟩ :: rest) (hs : l.start = none) : LSound g (exitFix l n rest) := by
  have hchain : Chain g (guardOf rest) := (chain_append.1 (guardOf_cons .. ▸ hst ▸ hl.chain)).1
  have htodo := (List.forall_mem_cons.1 (hst ▸ hl.todo)).2
  have hfresh : l.start.isSome = true → rest = [] := by simp [hs]
  fun_cases exitFix l n rest
  · next ks hf _ _ =>
    exact ⟨hchain, htodo, hfresh, addRec_all (fun p hp => hl.recOf p (List.mem_filter.1 hp).1) (hl.recOf _ (List.mem_of_find?_eq_some hf)), hl.writes⟩
  · next ks hf _ =>
    exact ⟨hchain, htodo, hfresh, hl.recOf, List.forall_mem_map.2 fun x hx _ => hl.recOf _ (List.mem_of_find?_eq_some hf) x hx⟩
  · refine ⟨hchain, htodo, hfresh, hl.recOf, fun p hp hb => ?_⟩
    -- the only write is `(n, false)`
    split at hp
    · cases hp
    · cases List.mem_singleton.1 hp; cases hb

theorem CSound.nil (g : Graph) : CSound g [] := nofun

theorem set_sound {g : Graph} {c : Cache} {k : Node} {b : Bool} (hc : CSound g c) (hk : b = true → OnCycle g k) :
    CSound g (c.set k b) := by
  intro p hp hb
  rcases List.mem_cons.1 hp with rfl | hpt
  · exact hk hb
  · exact hc p (List.mem_filter.1 hpt).1 hb

theorem LSound.advance {g : Graph} {l : Local} {n ch : Node} {todo : List Node} {rest : List Frame} (hl : LSound g l)
    (hst : l.stack = ⟨n, ch :: todo⟩ :: rest) (hs : l.start = none) :
    Edge g n ch ∧ LSound g { l with stack := ⟨n, todo⟩ :: rest } := by
  have ht := List.forall_mem_cons.1 (hst ▸ hl.todo)
  exact ⟨ht.1 ch (List.mem_cons_self ..), { hl with
    chain := (hst ▸ hl.chain : Chain g (guardOf (⟨n, ch :: todo⟩ :: rest)))
    todo := List.forall_mem_cons.2 ⟨fun x hx => ht.1 x (List.mem_cons_of_mem _ hx), ht.2⟩
    fresh := by simp [hs] }⟩

theorem step_lsound {g : Graph} {c : Cache} {l : Local} (hl : LSound g l) : LSound g (step g c l).2 := by
  fun_cases step g c l
  · next hw => exact { hl with writes := fun p hp => hl.writes p (hw ▸ List.mem_cons_of_mem _ hp) }
  · next n hs =>
    have h0 : l.stack = [] := hl.fresh (by simp [hs])
    exact enter_sound (l := { l with start := none }) { hl with fresh := nofun } rfl (by simp [h0, guardOf])
  · exact hl
  · next hs n rest hst => exact exitFix_sound hl hst hs
  · next hs n ch todo rest hst =>
    have ⟨e, hl'⟩ := hl.advance hst hs
    exact enter_sound hl' hs (by simpa [guardOf_cons] using e)

theorem step_sound {g : Graph} {c : Cache} {l : Local} (hl : LSound g l) (hc : CSound g c) :
    LSound g (step g c l).2 ∧ CSound g (step g c l).1 := by
  refine ⟨step_lsound hl, ?_⟩
  -- the memo changes only by a pending write
  fun_cases step g c l
  · next k b ws hw => exact set_sound hc (hl.writes (k, b) (hw ▸ List.mem_cons_self ..))
  all_goals exact hc

theorem fresh_sound (g : Graph) (n : Node) : LSound g { start := some n } :=
  ⟨trivial, nofun, fun _ => rfl, nofun, nofun⟩

theorem runLocal_sound (g : Graph) : ∀ (fuel : Nat) (c : Cache) (l : Local), LSound g l → CSound g c →
    CSound g (runLocal step g fuel c l).1
  | 0, _, _, _, hc => hc
  | fuel + 1, c, l, hl, hc => by
    unfold runLocal
    split
    · exact hc
    · exact runLocal_sound g fuel _ _ (step_sound hl hc).1 (step_sound hl hc).2

theorem history_sound (g : Graph) (fuel : Nat) (starts : List Node) : CSound g (history step g fuel starts) :=
  List.foldlRecOn (motive := CSound g) starts _ (CSound.nil g) fun c hc s _ => by
    unfold analyseSeq
    split
    · exact hc
    · exact runLocal_sound g fuel c _ (fresh_sound g s) hc

theorem CSound.get? {g : Graph} {c : Cache} {k : Node} (hc : CSound g c) (h : c.get? k = some true) : OnCycle g k := by
  obtain ⟨p, hf, hb⟩ := Option.map_eq_some_iff.1 h
  have hk : p.1 = k := by simpa using List.find?_some hf
  exact hk ▸ hc p (List.mem_of_find?_eq_some hf) hb

/-- **Soundness of `is_recursive` (C20 / C03), any graph, any history of calls, any bound on the number of steps:** a type answered `True`
    reaches itself. -/
theorem true_sound (g : Graph) (fuel : Nat) (starts : List Node) (k : Node)
    (h : (history step g fuel starts).get? k = some true) : OnCycle g k :=
  (history_sound g fuel starts).get? h

/-- the same for two checkers sharing the memo under *any* schedule of the machine without the lock -/
theorem true_sound_concurrent (g : Graph) (na nb : Node) (sched : List Bool) (k : Node)
    (h : (runSched g { cache := [], a := { start := some na }, b := { start := some nb } } sched).cache.get? k = some true) :
    OnCycle g k := by
  refine CSound.get? (List.foldlRecOn (motive := fun s => LSound g s.a ∧ LSound g s.b ∧ CSound g s.cache) sched (stepSched g)
    ⟨fresh_sound g na, fresh_sound g nb, CSound.nil g⟩ fun s ⟨ha, hb, hc⟩ t _ => ?_).2.2 h
  cases t
  · exact ⟨(step_sound ha hc).1, hb, (step_sound ha hc).2⟩
  · exact ⟨ha, (step_sound hb hc).1, (step_sound hb hc).2⟩

/-- on a graph without cycle every answer is `False`: no `RecMethod` is ever introduced for non-recursive types -/
theorem acyclic_all_false (g : Graph) (hg : ∀ n, ¬ OnCycle g n) (fuel : Nat) (starts : List Node) (k : Node) (b : Bool)
    (h : (history step g fuel starts).get? k = some b) : b = false := by
  cases b with
  | false => rfl
  | true => exact absurd (true_sound g fuel starts k h) (hg k)

theorem reachFrom_sound (g : Graph) : ∀ (k : Nat) (front : List Node) (x : Node), x ∈ reachFrom g k front → ∃ f ∈ front, Reach g f x
  | 0, front, x, hx => ⟨x, hx, .refl _⟩
  | k + 1, front, x, hx => by
    unfold reachFrom at hx
    rcases List.mem_append.1 hx with h1 | h2
    · exact ⟨x, h1, .refl _⟩
    · obtain ⟨f', hf', hr⟩ := reachFrom_sound g k _ x h2
      obtain ⟨f, hf, hc⟩ := List.mem_flatMap.1 hf'
      exact ⟨f, hf, .step hc hr⟩

/-- the executable reference used by the driver and the harness (`onCycleB`) only answers `true` on a cycle -/
theorem onCycleB_sound (g : Graph) (n : Node) (h : onCycleB g n = true) : OnCycle g n :=
  reachFrom_sound g _ _ n (by simpa [onCycleB] using h)

/-- the premises are met by a non-trivial run: the example graph answers `True` for `Q` -/
example : (history step g1 200 [0]).get? 4 = some true := g1_repaired_exact.2

end Api.Rec
