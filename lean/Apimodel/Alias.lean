/-!
# C11: one external name per field across every view

`ObjectField.alias` is computed by `ObjectVisitor._object` / `_override_alias` (field alias or name, through the class aliaser unless
`override=False`), the same way for every visitor; every view then applies its own (dynamic / global / GraphQL) aliaser to that string.  The views
are modelled by what they read: deserialization and serialization field tables, `properties` / `required` /
`dependentRequired` of both schema builders, the location of a field error, GraphQL input and output fields.
-/
namespace Api.Alias

structure Fld where
  name : String
  /-- `alias(...)` metadata -/
  alias : Option String := none
  /-- `alias(..., override=False)`: exempt from the class aliaser -/
  override : Bool := true
  deriving Repr, Inhabited

/-- the specification: `aliaser(class_aliaser(alias or name))` -/
def extName (dyn : String → String) (cls : Option (String → String)) (f : Fld) : String :=
  let base := f.alias.getD f.name
  dyn (if f.override then (match cls with | some c => c base | none => base) else base)

/-- the alias stored in the `ObjectField` (class aliaser already applied: `_override_alias` in objects/visitor.py) -/
def storedAlias (cls : Option (String → String)) (f : Fld) : String :=
  let base := f.alias.getD f.name
  if f.override then (match cls with | some c => c base | none => base) else base

inductive View where
  | deserialize | serialize | deserSchemaProps | deserSchemaRequired | serSchemaProps | serSchemaRequired
  | dependentRequired | errorLoc | graphqlInput | graphqlOutput
  deriving DecidableEq, Repr

/-- which string a view feeds to the aliaser.  `gqlOutUsesName` is the defect of row 16 (the GraphQL output builder
    used `field.name`); `depReqPlain` is row 23 (`dependentRequired` keys were plain `str`, so a dynamic aliaser did not
    reach them; repaired: they are `AliasedStr` like the keys of `properties`) -/
structure Quirks where
  gqlOutUsesName : Bool := false
  depReqPlain : Bool := false

def viewName (q : Quirks) (dyn : String → String) (cls : Option (String → String)) (v : View) (f : Fld) : String :=
  match v with
  | .graphqlOutput => if q.gqlOutUsesName then dyn f.name else dyn (storedAlias cls f)
  | .dependentRequired => if q.depReqPlain then storedAlias cls f else dyn (storedAlias cls f)
  | _ => dyn (storedAlias cls f)

def names (q : Quirks) (dyn : String → String) (cls : Option (String → String)) (v : View) (fs : List Fld) : List String :=
  fs.map (viewName q dyn cls v)

theorem viewName_eq (q : Quirks) (dyn : String → String) (cls : Option (String → String)) (v : View) (f : Fld)
    (hg : v = .graphqlOutput → q.gqlOutUsesName = false)
    (hd : v = .dependentRequired → q.depReqPlain = false ∨ dyn (storedAlias cls f) = storedAlias cls f) :
    viewName q dyn cls v f = extName dyn cls f := by
  show viewName q dyn cls v f = dyn (storedAlias cls f)
  cases v <;> try rfl   -- eight views read `dyn (storedAlias cls f)` outright
  · rcases hd rfl with h | h <;> simp [viewName, h]
  · simp [viewName, hg rfl]

/-- **C11.** With the GraphQL output builder repaired, every view except `dependentRequired` lists exactly the
    external names, for every aliaser function, class aliaser and field list. -/
theorem C11_views (q : Quirks) (hq : q.gqlOutUsesName = false) (dyn : String → String) (cls : Option (String → String))
    (v : View) (hv : v ≠ .dependentRequired) (fs : List Fld) :
    names q dyn cls v fs = fs.map (extName dyn cls) :=
  List.map_congr_left fun f _ => viewName_eq q dyn cls v f (fun _ => hq) (fun h => absurd h hv)

/-- two views never disagree on a field (what a consumer relies on: the key `serialize` produces is the key
    `deserialize` consumes, the schema property, the error location, the GraphQL name) -/
theorem C11_views_agree (q : Quirks) (hq : q.gqlOutUsesName = false) (dyn : String → String) (cls : Option (String → String))
    (v w : View) (hv : v ≠ .dependentRequired) (hw : w ≠ .dependentRequired) (fs : List Fld) :
    names q dyn cls v fs = names q dyn cls w fs := by
  rw [C11_views q hq dyn cls v hv, C11_views q hq dyn cls w hw]

/-- **C11, every view.** With both repairs, every view - `dependentRequired` included - lists exactly the external
    names, for every aliaser function, class aliaser and field list. -/
theorem C11_all_views (q : Quirks) (hq : q.gqlOutUsesName = false) (hd : q.depReqPlain = false) (dyn : String → String)
    (cls : Option (String → String)) (v : View) (fs : List Fld) :
    names q dyn cls v fs = fs.map (extName dyn cls) :=
  List.map_congr_left fun f _ => viewName_eq q dyn cls v f (fun _ => hq) (fun _ => Or.inl hd)

/-- the tree's quirks record is the repaired one -/
example : ({} : Quirks).gqlOutUsesName = false ∧ ({} : Quirks).depReqPlain = false := ⟨rfl, rfl⟩

/-- whatever the quirks, `dependentRequired` follows the other views when the dynamic aliaser is the identity on the stored
    aliases (row 23: a dynamic aliaser renames `properties` but not `dependentRequired`) -/
theorem C11_dependentRequired_partial (q : Quirks) (dyn : String → String) (cls : Option (String → String)) (fs : List Fld)
    (hid : ∀ f ∈ fs, dyn (storedAlias cls f) = storedAlias cls f) :
    names q dyn cls .dependentRequired fs = fs.map (extName dyn cls) :=
  List.map_congr_left fun f hf => viewName_eq q dyn cls _ f (fun h => View.noConfusion h) (fun _ => Or.inr (hid f hf))

/-- row 23 (before the repair), witness: under `str.upper` as dynamic aliaser the property is renamed, the `dependentRequired` key is not -/
theorem C11_dependentRequired_counterexample :
    names { depReqPlain := true } (fun s => if s = "a" then "A" else s) none .dependentRequired [{ name := "a" }]
      ≠ names { depReqPlain := true } (fun s => if s = "a" then "A" else s) none .deserSchemaProps [{ name := "a" }] := by
  decide +kernel

/-- row 16, witness: with the defect, an aliased field has two external names -/
theorem C11_graphql_counterexample :
    names { gqlOutUsesName := true } id none .graphqlOutput [{ name := "a", alias := some "al" }]
      ≠ names { gqlOutUsesName := true } id none .serialize [{ name := "a", alias := some "al" }] := by
  decide +kernel

/-- non-vacuity: a class aliaser, an exempted field and a dynamic aliaser at once -/
example : names {} (fun s => if s = "A" then "A_" else if s = "al" then "al_" else s) (some (fun s => if s = "a" then "A" else "AL")) .errorLoc
    [{ name := "a" }, { name := "b", alias := some "al", override := false }] = ["A_", "al_"] := by decide +kernel

end Api.Alias
