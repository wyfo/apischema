import Apimodel.MetaChain
import Apimodel.Generated.MetaSrc
/-! C11 / C04 (one external name, one omission rule per field): which annotation decides. -/
namespace Api.Meta

theorem chainLookup_append {V : Type} (ms ns : List (MetaMap V)) (k : String) :
    chainLookup (ms ++ ns) k = match chainLookup ms k with | some v => some v | none => chainLookup ns k := by
  induction ms with
  | nil => rfl
  | cons m ms ih =>
    simp only [List.cons_append, chainLookup]
    cases lookupIn m k with
    | some v => rfl
    | none => exact ih

/-- a key given in `field(metadata=...)` is read there, whatever the annotations say -/
theorem field_metadata_wins {V : Type} (fieldMeta : MetaMap V) (annos : List (MetaMap V)) (k : String) (v : V)
    (h : lookupIn fieldMeta k = some v) : fullMetadata fieldMeta annos k = some v := by
  simp [fullMetadata, chainLookup, h]

/-- otherwise the outermost (last written) annotation that has the key decides: an alias re-annotated at the point of use overrides the alias
carried by the annotated type -/
theorem outermost_wins {V : Type} (fieldMeta : MetaMap V) (inner : List (MetaMap V)) (outer : MetaMap V) (k : String) (v : V)
    (hf : lookupIn fieldMeta k = none) (ho : lookupIn outer k = some v) :
    fullMetadata fieldMeta (inner ++ [outer]) k = some v := by
  simp [fullMetadata, chainLookup, hf, List.reverse_append, ho]

theorem transparent_annotation {V : Type} (fieldMeta : MetaMap V) (inner : List (MetaMap V)) (outer : MetaMap V) (k : String)
    (ho : lookupIn outer k = none) :
    fullMetadata fieldMeta (inner ++ [outer]) k = fullMetadata fieldMeta inner k := by
  simp [fullMetadata, chainLookup, List.reverse_append, ho]

/-- where the two readings differ: two annotations give the key, with different values: `UserId = Annotated[int, alias("id")]`, `sender: Annotated[UserId, alias("sender_id")]` -/
example : fullMetadata ([] : MetaMap String) [[("alias", "id")], [("alias", "sender_id")]] "alias" = some "sender_id" ∧
    fullMetadataInnermostFirst ([] : MetaMap String) [[("alias", "id")], [("alias", "sender_id")]] "alias" = some "id" := by decide +kernel

/-- Source tie: the chain of the working tree is the field's metadata followed by the mapping arguments in reversed order. -/
theorem chain_source :
    Generated.meta_chainArgs = ["cast(MutableMapping, self.metadata)", "*(cast(MutableMapping, arg) for arg in reversed(get_args(self.type)[1:]) if isinstance(arg, Mapping))"] ∧
    Generated.meta_plainCase = "if not is_annotated(self.type): return self.metadata" :=
  ⟨rfl, rfl⟩

end Api.Meta
