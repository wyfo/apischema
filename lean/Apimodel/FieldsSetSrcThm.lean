import Apimodel.FieldsSetSrc
import Apimodel.Generated.FieldsSetSrc
/-! Source tie of `with_fields_set` (apischema/fields.py; C15): the set expressions of `new_init` evaluate to the model's `afterInit`; the
definitions the model takes as given (`params`, the classification of the dataclass fields, `__setattr__`, `set_fields`, `unset_fields`)
are compared as text. -/
namespace Api
open SExpr

/-- the names of `new_init` as the model reads them; `prev` is what `__dict__[FIELDS_SET_ATTR]` holds at the call (on a freshly created
instance `[]`: `new_new` stores an empty set) -/
def initEnv (c : FSClass) (nargs : Nat) (kwargs : List String) (prev : List String) : String → List String
  | "params[:len(args)]" => c.params.take nargs
  | "kwargs" => kwargs
  | "init_fields" => c.initVars
  | "post_init_fields" => c.postInit
  | "prev_fields_set" => prev
  | "arg_fields" => eval (fun s => match s with
                                    | "params[:len(args)]" => c.params.take nargs | "kwargs" => kwargs | "init_fields" => c.initVars | _ => [])
                      Generated.fs_initArgFields
  | _ => []

/-- `initEnv` reads a name it does not know as the empty set: the two expressions have no other names than these -/
theorem fs_atoms_known :
    Generated.fs_initArgFields.atoms = ["params[:len(args)]", "kwargs", "init_fields"] ∧
    Generated.fs_initResult.atoms = ["prev_fields_set", "arg_fields", "post_init_fields"] := ⟨rfl, rfl⟩

theorem mem_ofList {l : List String} {x : String} : x ∈ ofList l ↔ x ∈ l := by
  unfold ofList; rw [mem_union]; simp

/-- C15 (source tie): the state `new_init` stores is, as a set, the model's `afterInit` joined with what was set before the call
(nothing for a new instance) -/
theorem afterInit_matches_source (c : FSClass) (nargs : Nat) (kwargs prev : List String) (x : String) :
    x ∈ eval (initEnv c nargs kwargs prev) Generated.fs_initResult ↔ x ∈ prev ∨ x ∈ afterInit c nargs kwargs := by
  simp only [Generated.fs_initResult, Generated.fs_initArgFields, eval, initEnv, afterInit, mem_union, mem_diff, mem_ofList, List.mem_append]
  exact or_assoc

theorem afterInit_matches_source_fresh (c : FSClass) (nargs : Nat) (kwargs : List String) (x : String) :
    x ∈ eval (initEnv c nargs kwargs []) Generated.fs_initResult ↔ x ∈ afterInit c nargs kwargs := by
  rw [afterInit_matches_source]; simp

theorem fs_definitions_pinned :
    Generated.fs_paramsSrc = "list(signature(cls.__init__).parameters)[1:]" ∧
    Generated.fs_initPrevSrc = "self.__dict__.get(FIELDS_SET_ATTR, set()).copy()" ∧
    Generated.fs_initOrderSrc = "prev_fields_set ; self.__dict__[FIELDS_SET_ATTR] ; arg_fields ; self.__dict__[FIELDS_SET_ATTR]" ∧
    Generated.fs_classify = [((.atom "field._field_type == _FIELD_INITVAR"), "init_fields"),
      ((.and (.atom "field._field_type == _FIELD") (.not (.atom "field.init"))), "post_init_fields"),
      ((.atom "field.metadata.get(DEFAULT_AS_SET_METADATA)"), "post_init_fields")] ∧
    Generated.fs_setattrSrc = "try:\n    fields_set_ = self.__dict__[FIELDS_SET_ATTR]\nexcept KeyError:\n    raise RuntimeError(dataclass_before_error) from None\nold_setattr(self, attr, value)\nif attr != '__orig_class__':\n    fields_set_.add(attr)" ∧
    Generated.fs_setFieldsSrc = "if overwrite:\n    _fields_set(obj).clear()\n_fields_set(obj).update(map(get_field_name, fields))\nreturn obj" ∧
    Generated.fs_unsetFieldsSrc = "_fields_set(obj).difference_update(map(get_field_name, fields))\nreturn obj" ∧
    Generated.fs_fieldsSetSrc = "return _fields_set(obj)" :=
  ⟨rfl, rfl, rfl, rfl, rfl, rfl, rfl, rfl⟩

end Api
