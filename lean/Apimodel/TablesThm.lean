import Apimodel.Generated.Tables
import Apimodel.VersionsThm
import Apimodel.Deser
/-!
# Facts about the tables regenerated from the source tree on every run (tools/extract.py)

Each theorem is closed by unfolding the *generated* data, so an edit of the corresponding table in
`/repo` makes the build of this module fail, which the checks report as a broken proof obligation.
-/
namespace Api.Tables
open Api.Generated

/-- C14: the boolean word table of the default coercer is the documented one, keys lower-cased, and the only
    string coerced to `None` is the empty string -/
theorem C14_word_table :
    boolWords = [("0", false), ("1", true), ("f", false), ("t", true), ("n", false), ("y", true), ("no", false), ("yes", true),
                 ("false", false), ("true", true), ("off", false), ("on", true), ("ko", false), ("ok", true)]
    ∧ boolWordsLowercased = true ∧ strNoneValues = [""] := ⟨rfl, rfl, rfl⟩

/-- C08: the methods that `check_only` treats as returning their input are exactly the ones the model marks
    (`FloatMethod` is not among them: it converts integers) -/
theorem C08_check_only_table :
    checkOnlyMethods = ["NoneMethod", "BoolMethod", "IntMethod", "StrMethod", "ListCheckOnlyMethod", "MappingCheckOnly"] := rfl

/-- C08: the tests that select the pass-through / simple methods have exactly the conjuncts the model's `listSel`,
    `mappingSel`, `objSel` + `simpleOk` encode (`o.noCopy && m.checkOnly`; `o.noCopy && k.checkOnly && v.checkOnly`;
    `!c.hasDict && (td == o.additionalProperties) && (!td || o.noCopy) && ∀ field: checkOnly ∧ alias = name ∧ ¬fbod ∧ requiredBy = []`,
    flattened / pattern / additional fields and validators being outside the model): dropping or adding one breaks this -/
theorem C08_fast_path_conditions :
    fastPathConds = [
      ("collection", ["self.no_copy", "check_only(value_method)"], "ListCheckOnlyMethod"),
      ("mapping", ["self.no_copy", "check_only(key_method)", "check_only(value_method)"], "MappingCheckOnly"),
      ("object", ["not object_constraints", "not flattened_fields", "not pattern_fields", "not additional_field",
                  "is_typed_dict(cls) == self.additional_properties", "not is_typed_dict(cls) or self.no_copy", "not validators",
                  "all((check_only(f.method) and f.alias == f.name and (not f.fall_back_on_default) and (not f.required_by) for f in normal_fields))"],
       "SimpleObjectMethod")] := rfl

/-- C18: the 2019-09 rewrite moves `prefixItems` (row 18 repaired), hence by `C18_vocabulary` no 2020-12 array keyword
    is left at any depth of a converted schema -/
theorem C18_vocabulary_generated :
    keepsPrefixItems = false ∧ ∀ s : Sch, (to07 { keepsPrefixItems := keepsPrefixItems } s).clean = true :=
  ⟨rfl, C18_vocabulary⟩

/-- C18 / C17: declared meta-schema, reference prefix and converter of each dialect (row 25 repaired: 2019-09 declares 2019-09) -/
theorem C18_version_table :
    (schemaVersions.map (fun v => (v.1, v.2.take 3))) =
      [("DRAFT_2020_12", ["http://json-schema.org/draft/2020-12/schema#", "#/$defs/", "None"]),
       ("DRAFT_2019_09", ["http://json-schema.org/draft/2019-09/schema#", "#/$defs/", "to_json_schema_2019_09"]),
       ("DRAFT_7", ["http://json-schema.org/draft-07/schema#", "#/definitions/", "to_json_schema_7"]),
       ("OPEN_API_3_0", ["None", "#/components/schemas/", "to_open_api_3_0"]),
       ("OPEN_API_3_1", ["None", "#/components/schemas/", "None"])]
    ∧ oas30Unsupported = ["additionalItems", "dependentRequired", "unevaluatedProperties"] := ⟨rfl, rfl⟩

/-- C02: `settings.errors` has the documented templates, by name, none of them empty, and `JsonType` the seven JSON names
    (the texts are not compared here: harness/canon.py parses messages through its own copy of them) -/
theorem C02_error_templates :
    errorTemplates.map (·.1) = ["minimum", "maximum", "exclusive_minimum", "exclusive_maximum", "multiple_of", "min_length", "max_length",
      "pattern", "min_items", "max_items", "unique_items", "min_properties", "max_properties", "one_of", "unexpected_property", "missing_property"]
    ∧ errorTemplates.all (fun t => t.2.length > 0) = true
    ∧ jsonTypes.map (·.2) = ["null", "boolean", "string", "integer", "number", "array", "object"] := by
  -- `String.length` decodes UTF-8 and is dear to evaluate; comparing with `""` is not
  have h (s : String) : decide (s.length > 0) = decide (s ≠ "") := by simp [Nat.pos_iff_ne_zero, String.length_eq_zero_iff]
  refine ⟨rfl, ?_, rfl⟩
  -- `String.reduceEq` tells a literal from `""` by its first character; evaluating `String.decEq` encodes the whole literal
  simp only [h, errorTemplates, List.all_cons, List.all_nil, ne_eq, String.reduceEq, not_false_eq_true, decide_true, Bool.and_self]

end Api.Tables
