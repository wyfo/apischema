import Apimodel.RecSoundThm
/-! The guard of a checker never holds a type twice, and holds only the type the call
started from and types that occur as children in the graph — so `RecursiveChecker.visit` is never nested deeper than `1 +` the number of child
occurrences of the graph (counted with multiplicity), whatever the memo holds and whatever other checkers do to it.

The guard is a path of the graph (`LSound.chain`, kept by every step whatever the memo holds: `step_lsound`) without repetition (`step_nodup`), and
every node of a path but the first is a child of the one before it. -/
namespace Api.Rec

theorem nodup_length_le : ∀ (l l' : List Node), l.Nodup → (∀ x ∈ l, x ∈ l') → l.length ≤ l'.length :=
  fun _ _ hn hs => hn.length_le_of_subset hs

/-- the types a call started from `s` can ever hold on its guard -/
def typesOf (g : Graph) (s : Node) : List Node := s :: g.flatMap (·.2)

theorem chain_targets {g : Graph} : ∀ (p : List Node) (a : Node), Chain g (a :: p) → ∀ x ∈ p, x ∈ g.flatMap (·.2)
  | b :: p, a, hc, x, hx => by
    rcases List.mem_cons.1 hx with rfl | hx
    · have ⟨_, hm, hb⟩ := edge_entry hc.1
      exact List.mem_flatMap.2 ⟨_, hm, hb⟩
    · exact chain_targets p b hc.2 x hx

theorem chain_length_le {g : Graph} : ∀ (p : List Node), Chain g p → p.Nodup → p.length ≤ (g.flatMap (·.2)).length + 1
  | [], _, _ => Nat.zero_le _
  | a :: p, hc, hn => Nat.succ_le_succ (nodup_length_le _ _ (List.nodup_cons.1 hn).2 (chain_targets p a hc))

theorem enter_nodup {g : Graph} {c : Cache} {l : Local} {n : Node} (h : (l.stack.map (·.node)).Nodup) :
    ((enter g c l n).stack.map (·.node)).Nodup := by
  fun_cases enter g c l n
  · exact h
  · exact h
  · next hc => exact List.nodup_cons.2 ⟨fun hm => hc (List.contains_iff_mem.2 (List.mem_reverse.2 hm)), h⟩

theorem exitFix_stack (l : Local) (n : Node) (rest : List Frame) : (exitFix l n rest).stack = rest := by
  fun_cases exitFix l n rest <;> rfl

theorem step_nodup {g : Graph} {c : Cache} {l : Local} (h : (l.stack.map (·.node)).Nodup) :
    ((step g c l).2.stack.map (·.node)).Nodup := by
  fun_cases step g c l
  · exact h
  · exact enter_nodup h
  · exact h
  · next hst => rw [hst] at h; rw [exitFix_stack]; exact (List.nodup_cons.1 h).2
  · next hst => rw [hst] at h; exact enter_nodup h

/-- any number of steps of one checker, whatever memo each step sees (another checker may write between two steps) -/
def stepsWith (g : Graph) : List Cache → Local → Local
  | [], l => l
  | c :: cs, l => stepsWith g cs (step g c l).2

theorem stepsWith_inv {g : Graph} {P : Local → Prop} (hP : ∀ c l, P l → P (step g c l).2) : ∀ (cs : List Cache) (l : Local), P l → P (stepsWith g cs l)
  | [], _, h => h
  | c :: cs, l, h => stepsWith_inv hP cs _ (hP c l h)

/-- **The recursion of the analysis is bounded (C03 / C20):** at every moment of a call started from `s` the guard — the nesting of
    `RecursiveChecker.visit` — holds at most `1 +` (number of child occurrences in the graph) types, none of them twice. -/
theorem analysis_depth_bounded (g : Graph) (s : Node) (cs : List Cache) :
    (stepsWith g cs { start := some s }).stack.length ≤ (typesOf g s).length ∧
    ((stepsWith g cs { start := some s }).stack.map (·.node)).Nodup := by
  obtain ⟨hl, hn⟩ := stepsWith_inv (P := fun l => LSound g l ∧ (l.stack.map (·.node)).Nodup)
    (fun _ _ h => ⟨step_lsound h.1, step_nodup h.2⟩) cs _ ⟨fresh_sound g s, List.nodup_nil⟩
  have := chain_length_le _ hl.chain ((List.reverse_perm _).nodup_iff.2 hn)
  exact ⟨by simpa [guardOf, typesOf] using this, hn⟩

end Api.Rec
