import Apimodel.Rec
import Apimodel.Generated.RecLock
/-! Source tie of the lock of the recursion analysis (C20).  The model `runLocked` (and `C20_mutex`, `lockInv_run`) describes an analysis whose every
step - reads and writes of the shared cache included - happens while one lock, the same for every thread and every analysed type, is held.
`Generated/RecLock.lean` says how `is_recursive` is protected in the working tree; `lock_is_global` is the hypothesis of the model: the whole body
of the function is one `with` block on a name bound exactly once, at import time, to a re-entrant lock. -/
namespace Api.Rec

theorem lock_is_global :
    Generated.rec_wholeBodyUnderLock = true ∧ Generated.rec_lockExpr = "_lock" ∧ Generated.rec_lockDef = "RLock()" ∧ Generated.rec_lockAssignments = 1 ∧
    Generated.rec_decorators = ["cache"] ∧
    Generated.rec_underLock = "cache, rec_key = (recursion_cache(checker_cls, default_conversion), (tp, conversion))\nif rec_key not in cache:\n    checker_cls(default_conversion).visit_with_conv(tp, conversion)\nreturn cache[rec_key]" :=
  ⟨rfl, rfl, rfl, rfl, rfl, rfl⟩

/-- The memo of the analysis is one dictionary per (checker class, default conversion): what a type reaches - and so whether it is recursive -
depends on the default conversion, so an answer recorded under one default conversion is never read under another (the model's cache belongs to
one analysis context: `Api.Rec` quantifies over one graph).  Every call of `recursion_cache` in the module passes the default conversion of the
analysis it belongs to. -/
theorem memo_keyed_by_default_conversion :
    Generated.rec_memoParams = ["checker_cls", "default_conversion"] ∧ Generated.rec_memoDecorators = ["cache"] ∧
    Generated.rec_memoCalls = ["recursion_cache(checker_cls, default_conversion)", "recursion_cache(self.__class__, default_conversion)"] ∧
    Generated.rec_checkerInitParams = ["self", "default_conversion"] :=
  ⟨rfl, rfl, rfl, rfl⟩

/-- The body of `RecursiveChecker.visit` as `Api.Rec.enter` / `exitFix` read it: a memo hit passes; a key of the guard records the guard from that
key on (`_recursive`, `_all_recursive`); otherwise the key is pushed, its children visited, and on return (row 96) a head hands its keys to an outer
key of the guard that has recorded it — or writes them `True` when there is none — and a key outside every recorded cycle is written `False`. -/
theorem visit_pinned :
    Generated.rec_visitChain = [
      ("first", "rec_key = (tp, self._conversion)"),
      ("rec_key in self._cache", "pass"),
      ("rec_key in self._guard_indices", "recursive = self._guard[self._guard_indices[rec_key]:]\nself._recursive.setdefault(rec_key, set()).update(recursive)\nself._all_recursive.update(recursive)"),
      ("else", "self._guard_indices[rec_key] = len(self._guard)\nself._guard.append(rec_key)\ntry:\n    super().visit(tp)\nfinally:\n    self._guard.pop()\n    self._guard_indices.pop(rec_key)\nif rec_key in self._recursive:\n    outer = next((k for k in self._guard if rec_key in self._recursive.get(k, ())), None)\n    if outer is not None:\n        self._recursive[outer].update(self._recursive.pop(rec_key))\n    else:\n        for key in self._recursive[rec_key]:\n            self._cache[key] = True\n        assert self._cache[rec_key]\nelif rec_key not in self._all_recursive:\n    self._cache[rec_key] = False")] := rfl

end Api.Rec
