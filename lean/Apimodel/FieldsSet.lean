/-!
# `with_fields_set` (C15): the per-instance set of "set" fields as a state machine
Class directly decorated with `with_fields_set` (inheritance is outside the model).
-/
namespace Api

structure FSClass where
  /-- `__init__` parameters in order (init fields and `InitVar`s) -/
  params : List String
  initVars : List String
  /-- `InitVar`s that have a default (what `replace` re-injects in apischema; parsed by the driver, read by no definition here) -/
  initVarsWithDefault : List String
  /-- `field(init=False)` and `default_as_set` fields: always reported as set -/
  postInit : List String
  deriving Repr, Inhabited

inductive FSOp where
  | construct (nargs : Nat) (kwargs : List String)     -- `cls(*args, **kwargs)` / deserialization
  | setattr (name : String)
  | setFields (names : List String) (overwrite : Bool)
  | unsetFields (names : List String)
  | replace (changes : List String)                    -- `apischema.dataclasses.replace`
  deriving Repr, Inhabited

abbrev FSet := List String

def insertS (s : String) : FSet → FSet
  | [] => [s]
  | x :: xs => if s = x then x :: xs else if s < x then s :: x :: xs else x :: insertS s xs

def union (a b : FSet) : FSet := b.foldl (fun acc s => insertS s acc) a
def ofList (l : List String) : FSet := union [] l
def diff (a : FSet) (b : List String) : FSet := a.filter (fun s => !b.contains s)

/-- `new_init`: whatever `__setattr__` recorded during `__init__` is replaced by this -/
def afterInit (c : FSClass) (nargs : Nat) (kwargs : List String) : FSet :=
  union (diff (ofList (c.params.take nargs ++ kwargs)) c.initVars) c.postInit

def step (c : FSClass) (s : FSet) : FSOp → FSet
  | .construct n ks => afterInit c n ks
  | .setattr n => insertS n s
  | .setFields ns ow => union (if ow then [] else s) ns
  | .unsetFields ns => diff s ns
  | .replace changes =>
      -- `_replace`: the new instance gets `set_fields(result, *fields_set(obj), *changed fields, overwrite=True)`,
      -- init variables (given or re-injected defaults) left out (repair of row 24)
      union (union [] s) (changes.filter (fun v => !c.initVars.contains v))

def runOps (c : FSClass) (s : FSet) (ops : List FSOp) : FSet := ops.foldl (step c) s

/-- `fields_set(deserialize(T, d))`: the keys present in `d`, by field name -/
def afterDeserialize (c : FSClass) (present : List String) : FSet := afterInit c 0 present

theorem mem_insertS {s x : String} : ∀ {l : FSet}, x ∈ insertS s l ↔ x = s ∨ x ∈ l
  | [] => by simp [insertS]
  | y :: ys => by
    rw [insertS]
    split
    · next h => rw [h]; exact (or_iff_right_of_imp fun hx => hx ▸ List.mem_cons_self).symm
    · split
      · exact List.mem_cons
      · rw [List.mem_cons, mem_insertS, List.mem_cons]; exact or_left_comm

theorem mem_union {a : FSet} {b : List String} {x : String} : x ∈ union a b ↔ x ∈ a ∨ x ∈ b := by
  unfold union
  induction b generalizing a with
  | nil => simp
  | cons y ys ih => rw [List.foldl_cons, ih, mem_insertS, List.mem_cons, or_comm (a := x = y), or_assoc]

theorem mem_diff {a : FSet} {b : List String} {x : String} : x ∈ diff a b ↔ x ∈ a ∧ x ∉ b := by
  unfold diff; simp [List.mem_filter]

/-- after `cls(*args, **kwargs)` on a new instance: the parameters given, init variables left out, and the `init=False` / `default_as_set` fields -/
theorem mem_afterInit (c : FSClass) (nargs : Nat) (kwargs : List String) (x : String) :
    x ∈ afterInit c nargs kwargs ↔ ((x ∈ c.params.take nargs ∨ x ∈ kwargs) ∧ x ∉ c.initVars) ∨ x ∈ c.postInit := by
  unfold afterInit ofList
  simp [mem_union, mem_diff]

/-- **C15 (deserialization clause):** after `deserialize(T, d)` a field is reported as set iff its
    key was present (and it is not an init variable), or it is `init=False` / `default_as_set` -/
theorem C15_deserialize (c : FSClass) (present : List String) (x : String) :
    x ∈ afterDeserialize c present ↔ (x ∈ present ∧ x ∉ c.initVars) ∨ x ∈ c.postInit := by
  simp [afterDeserialize, mem_afterInit]   -- keywords only

theorem C15_setattr (c : FSClass) (s : FSet) (n x : String) :
    x ∈ step c s (.setattr n) ↔ x = n ∨ x ∈ s :=
  mem_insertS

theorem C15_unset (c : FSClass) (s : FSet) (ns : List String) (x : String) :
    x ∈ step c s (.unsetFields ns) ↔ x ∈ s ∧ x ∉ ns :=
  mem_diff

theorem C15_set (c : FSClass) (s : FSet) (ns : List String) (ow : Bool) (x : String) :
    x ∈ step c s (.setFields ns ow) ↔ (ow = false ∧ x ∈ s) ∨ x ∈ ns := by
  cases ow <;> simp [step, mem_union]

/-- `replace`: what was set stays set, the changed fields become set, init variables never do (row 24 repaired) -/
theorem C15_replace (c : FSClass) (s : FSet) (changes : List String) (x : String) :
    x ∈ step c s (.replace changes) ↔ x ∈ s ∨ (x ∈ changes ∧ x ∉ c.initVars) := by
  simp [step, mem_union, List.mem_filter]

/-- the class of the witness of row 24 on the repaired machine: an `InitVar` with a default, not among the changes, is not reported as set -/
example : "d" ∉ step { params := ["a", "d"], initVars := ["d"], initVarsWithDefault := ["d"], postInit := [] }
      [] (.replace ["a"]) := by decide +kernel

#print axioms C15_deserialize
end Api
