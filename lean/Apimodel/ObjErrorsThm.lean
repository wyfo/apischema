import Apimodel.ErrorsThm
/-!
# C02 for objects, one level: the children of an object's error are exactly its violating keys
(stated of `ObjectMethod` over any field methods; the composition through nested objects and arrays is not stated)
-/
namespace Api

section setChildren
variable {α : Type} {key : α → Key} {err : α → Err} {p : Key × Err}

theorem mem_foldl_setChild_inv : ∀ {l : List α} {cs}, p ∈ l.foldl (fun a x => setChild (key x) (err x) a) cs →
    p ∈ cs ∨ ∃ x ∈ l, p = (key x, err x)
  | [], _, h => Or.inl h
  | x :: l, cs, h => by
    rcases mem_foldl_setChild_inv (l := l) h with h1 | ⟨y, hy, hp⟩
    · exact (mem_setChild_inv h1).symm.imp_right fun h2 => ⟨x, List.mem_cons_self, h2⟩
    · exact Or.inr ⟨y, List.mem_cons_of_mem _ hy, hp⟩

theorem mem_foldl_setChild_of_mem : ∀ {l : List α} {cs}, p ∈ cs → (∀ x ∈ l, key x = p.1 → err x = p.2) →
    p ∈ l.foldl (fun a x => setChild (key x) (err x) a) cs
  | [], _, h, _ => h
  | x :: l, cs, h, hl => by
    rw [List.forall_mem_cons] at hl
    refine mem_foldl_setChild_of_mem (l := l) ?_ hl.2
    by_cases hk : key x = p.1
    · rw [show p = (key x, err x) by rw [hk, hl.1 hk]]; exact mem_setChild_self ..
    · exact mem_setChild_of_mem (Ne.symm hk) h

theorem mem_foldl_setChild_new : ∀ {l : List α} {x : α} (cs), x ∈ l → (∀ y ∈ l, key y = key x → err y = err x) →
    (key x, err x) ∈ l.foldl (fun a x => setChild (key x) (err x) a) cs
  | y :: l, x, cs, hx, hl => by
    rw [List.forall_mem_cons] at hl
    rcases List.mem_cons.1 hx with rfl | hx'
    · exact mem_foldl_setChild_of_mem (l := l) (mem_setChild_self ..) hl.2
    · exact mem_foldl_setChild_new (l := l) _ hx' hl.2
end setChildren

theorem mem_addUnexpected_inv : ∀ (ks : List String) (errs : List (Key × Err)) (p : Key × Err),
    p ∈ addUnexpected ks errs → p ∈ errs ∨ ∃ k ∈ ks, p = (Key.name k, Err.leaf .unexpected) :=
  fun _ _ _ h => mem_foldl_setChild_inv h

theorem mem_addUnexpected_of_mem : ∀ (ks : List String) (errs : List (Key × Err)) (p : Key × Err),
    p ∈ errs → (∀ k ∈ ks, p.1 ≠ Key.name k) → p ∈ addUnexpected ks errs :=
  fun _ _ _ h hne => mem_foldl_setChild_of_mem h fun k hk heq => absurd heq.symm (hne k hk)

theorem mem_addUnexpected_key : ∀ (ks : List String) (errs : List (Key × Err)) (k : String),
    (k ∈ ks ∨ (Key.name k, Err.leaf .unexpected) ∈ errs) → (Key.name k, Err.leaf .unexpected) ∈ addUnexpected ks errs :=
  fun _ _ _ h => h.elim (fun hk => mem_foldl_setChild_new (err := fun _ => Err.leaf .unexpected) _ hk fun _ _ _ => rfl)
    fun he => mem_foldl_setChild_of_mem he fun _ _ _ => rfl

theorem mem_unexpectedKeys {aliases : List String} {kvs : List (String × Py)} {k : String}
    (h : k ∈ unexpectedKeys aliases kvs) : k ∉ aliases := by
  unfold unexpectedKeys at h
  rw [List.mem_map] at h
  obtain ⟨kv, hkv, rfl⟩ := h
  simpa using (List.mem_filter.1 hkv).2

theorem alias_mem_aliasesM {fs : List (FieldInfo × Meth)} {fm} (h : fm ∈ fs) : fm.1.alias ∈ aliasesM fs :=
  aliasesM_eq_map fs ▸ List.mem_map_of_mem h

theorem mem_depMissing {infos : List FieldInfo} {kvs : List (String × Py)} {m : String × List String} :
    m ∈ depMissing infos kvs ↔ ∃ f ∈ infos, depViolated f kvs = true ∧ (f.alias, requiringPresent f kvs) = m := by
  simp only [depMissing_eq, List.mem_map, List.mem_filter, and_assoc]

theorem depMissing_keys_sublist (infos : List FieldInfo) (kvs : List (String × Py)) :
    ((depMissing infos kvs).map (·.1)).Sublist (infos.map (·.alias)) := by
  rw [depMissing_eq, List.map_map]; exact List.filter_sublist.map _

theorem mem_addDepMissing_inv : ∀ (ms : List (String × List String)) (errs : List (Key × Err)) (p : Key × Err),
    p ∈ addDepMissing ms errs → p ∈ errs ∨ ∃ m ∈ ms, p = (Key.name m.1, Err.leaf (.missingRequiredBy m.2)) :=
  fun _ _ _ h => mem_foldl_setChild_inv h

theorem mem_addDepMissing_of_mem : ∀ (ms : List (String × List String)) (errs : List (Key × Err)) (p : Key × Err),
    p ∈ errs → (∀ m ∈ ms, p.1 ≠ Key.name m.1) → p ∈ addDepMissing ms errs :=
  fun _ _ _ h hne => mem_foldl_setChild_of_mem h fun m hm heq => absurd heq.symm (hne m hm)

theorem mem_addDepMissing_key (ms : List (String × List String)) (errs : List (Key × Err)) (m : String × List String)
    (h : m ∈ ms) (hn : (ms.map (·.1)).Nodup) : (Key.name m.1, Err.leaf (.missingRequiredBy m.2)) ∈ addDepMissing ms errs :=
  mem_foldl_setChild_new (key := fun m => Key.name m.1) (err := fun m => Err.leaf (.missingRequiredBy m.2)) _ h
    fun m' hm' heq => by rw [eq_of_nodup_map hn hm' h (Key.name.inj heq)]

def fieldViolation (f : FieldInfo) (m : Meth) (kvs : List (String × Py)) : Option Err :=
  match lookupKey kvs f.alias with
  | some x => (match run m x with | .invalid e => some e | _ => Option.none)
  | Option.none => if f.required then some (.leaf .missing) else Option.none

theorem fieldViolation_of_depViolated {f : FieldInfo} {m : Meth} {kvs : List (String × Py)} (h : depViolated f kvs = true) :
    fieldViolation f m kvs = Option.none := by
  unfold depViolated at h
  simp only [Bool.and_eq_true, Option.isNone_iff_eq_none, Bool.not_eq_true'] at h
  rw [fieldViolation, h.1.1, h.1.2]; rfl

theorem runFields_cons_errs (u : Bool) {f : FieldInfo} (m : Meth) (fs kvs) (hfb : f.fbod = false) :
    ((runFields u ((f, m) :: fs) kvs).errs = [] ∧ (runFields u ((f, m) :: fs) kvs).crash.isSome = true) ∨
    ((runFields u ((f, m) :: fs) kvs).crash = (runFields u fs kvs).crash ∧
      (runFields u ((f, m) :: fs) kvs).errs = match fieldViolation f m kvs with
        | some e => setChild (.name f.alias) e (runFields u fs kvs).errs
        | Option.none => (runFields u fs kvs).errs) := by
  rw [runFields_cons, hfb, Bool.and_false, fieldViolation]
  unfold stepField
  cases lookupKey kvs f.alias with
  | none => cases f.required <;> exact Or.inr ⟨rfl, rfl⟩
  | some x =>
    dsimp only [Option.map_some]
    cases run m x with
    | ok v => exact Or.inr ⟨rfl, rfl⟩
    | crash c => exact Or.inl ⟨rfl, rfl⟩
    | invalid e => cases f.required <;> exact Or.inr ⟨rfl, rfl⟩

theorem runFields_sound {fs : List (FieldInfo × Meth)} (hnf : NoFbod fs) (u kvs) :
    ∀ p ∈ (runFields u fs kvs).errs, ∃ fm ∈ fs, p.1 = .name fm.1.alias ∧ fieldViolation fm.1 fm.2 kvs = some p.2 := by
  induction fs with
  | nil => intro p hp; rw [runFields] at hp; cases hp
  | cons fm fs ih =>
    obtain ⟨f, m⟩ := fm
    rw [NoFbod, List.forall_mem_cons] at hnf
    intro p hp
    have rest (h : p ∈ (runFields u fs kvs).errs) :
        ∃ fm ∈ (f, m) :: fs, p.1 = .name fm.1.alias ∧ fieldViolation fm.1 fm.2 kvs = some p.2 :=
      (ih hnf.2 p h).imp fun q hq => ⟨List.mem_cons_of_mem _ hq.1, hq.2⟩
    rcases runFields_cons_errs u m fs kvs hnf.1 with ⟨he, _⟩ | ⟨_, he⟩ <;> rw [he] at hp
    · cases hp
    · cases hv : fieldViolation f m kvs with
      | none => rw [hv] at hp; exact rest hp
      | some e =>
        rw [hv] at hp
        rcases mem_setChild_inv hp with rfl | hp'
        · exact ⟨(f, m), List.mem_cons_self, rfl, hv⟩
        · exact rest hp'

theorem runFields_complete {fs : List (FieldInfo × Meth)} (hnf : NoFbod fs) (ha : (aliasesM fs).Nodup) (u kvs)
    (hc : (runFields u fs kvs).crash = Option.none) :
    ∀ fm ∈ fs, ∀ e, fieldViolation fm.1 fm.2 kvs = some e → (Key.name fm.1.alias, e) ∈ (runFields u fs kvs).errs := by
  induction fs with
  | nil => intro fm h; cases h
  | cons fm0 fs ih =>
    obtain ⟨f, m⟩ := fm0
    rw [NoFbod, List.forall_mem_cons] at hnf
    rw [aliasesM_cons, List.nodup_cons] at ha
    rcases runFields_cons_errs u m fs kvs hnf.1 with ⟨_, hs⟩ | ⟨hcr, he⟩
    · rw [hc] at hs; cases hs
    · rw [he]
      intro fm hfm e hv
      rcases List.mem_cons.1 hfm with rfl | hfm'
      · rw [hv]; exact mem_setChild_self ..
      · -- a later field: its child survives the insertion of the head's, the aliases being distinct
        have hmem := ih hnf.2 ha.2 (hcr ▸ hc) fm hfm' e hv
        cases fieldViolation f m kvs with
        | none => exact hmem
        | some e0 =>
          exact mem_setChild_of_mem (fun (h : Key.name fm.1.alias = .name f.alias) =>
            ha.1 (Key.name.inj h ▸ alias_mem_aliasesM hfm')) hmem

theorem finishObj_invalid {ci infos own ap aliases} {acc : FAcc} {kvs : List (String × Py)} {e : Err}
    (hc : acc.crash = Option.none) (h : finishObj ci infos own ap aliases acc kvs = .invalid e) :
    e = .mk own (addDepMissing (depMissing infos kvs) (if (kvs.length != acc.count && !ap) = true
                 then addUnexpected (unexpectedKeys aliases kvs) acc.errs else acc.errs)) := by
  unfold finishObj at h
  rw [hc] at h
  simp only at h
  generalize hE : (addDepMissing (depMissing infos kvs) (if (kvs.length != acc.count && !ap) = true
                 then addUnexpected (unexpectedKeys aliases kvs) acc.errs else acc.errs)) = errs at h ⊢
  by_cases hb : (errs.isEmpty && own.isEmpty) = true
  · rw [if_pos hb] at h; cases h
  · rw [if_neg hb] at h; cases h; rfl

/-- **C02 for `ObjectMethod`, one level.** When an object is rejected, its own messages are the
    property-count violations, and its children are exactly: the violation of every declared field that
    has one (its value's own error under its alias, or `missing`), `missing property (required by [...])` under every
    absent, non-required field that a present field requires (`dependent_required`: `depViolated`; an absent required field gets plain `missing`), and — unless additional properties are
    allowed — `unexpected property` under every undeclared key. Nothing else, nothing missing. -/
theorem C02_object_level {ci : ClassInfo} {ctor : Ctor} {c : Constraints} {ap : Bool}
    {fs : List (FieldInfo × Meth)} {kvs : List (String × Py)} {e : Err}
    (hnf : NoFbod fs) (ha : (aliasesM fs).Nodup) (hk : (keysOf kvs).Nodup)
    (hc : (runFields true fs kvs).crash = Option.none)
    (h : run (.obj ci ctor c ap fs) (.dict kvs) = .invalid e) :
    e.msgs = c.dictErrors kvs.length ∧
    (∀ p ∈ e.children,
        (∃ fm ∈ fs, p.1 = .name fm.1.alias ∧ fieldViolation fm.1 fm.2 kvs = some p.2) ∨
        (ap = false ∧ ∃ k ∈ unexpectedKeys (aliasesM fs) kvs, p = (Key.name k, Err.leaf .unexpected)) ∨
        (∃ f ∈ infosM fs, depViolated f kvs = true ∧
            p = (Key.name f.alias, Err.leaf (.missingRequiredBy (requiringPresent f kvs))))) ∧
    (∀ fm ∈ fs, ∀ e', fieldViolation fm.1 fm.2 kvs = some e' → (Key.name fm.1.alias, e') ∈ e.children) ∧
    (ap = false → ∀ k ∈ unexpectedKeys (aliasesM fs) kvs, (Key.name k, Err.leaf .unexpected) ∈ e.children) ∧
    (∀ f ∈ infosM fs, depViolated f kvs = true →
        (Key.name f.alias, Err.leaf (.missingRequiredBy (requiringPresent f kvs))) ∈ e.children) := by
  rw [run] at h
  simp only [onDict] at h
  obtain rfl := finishObj_invalid hc h
  have hcount := (runFields_clean hnf true kvs).2 hc
  -- a `dependent_required` error sits under the alias of an absent, optional field: it collides neither with that
  -- field's own violation (there is none) nor with an unexpected key
  have hdepkey : ∀ m ∈ depMissing (infosM fs) kvs, m.1 ∈ aliasesM fs ∧
      ∀ fm ∈ fs, fm.1.alias = m.1 → fieldViolation fm.1 fm.2 kvs = Option.none := by
    intro m hm
    obtain ⟨f, hf, hv, rfl⟩ := mem_depMissing.1 hm
    obtain ⟨fm', hfm', rfl⟩ := List.mem_map.1 (infosM_eq_map fs ▸ hf)
    refine ⟨alias_mem_aliasesM hfm', fun fm hfm heq => ?_⟩
    cases eq_of_nodup_map (aliasesM_eq_map fs ▸ ha) hfm hfm' heq
    exact fieldViolation_of_depViolated hv
  refine ⟨rfl, ?_, ?_, ?_, ?_⟩
  · intro p hp
    simp only [Err.children] at hp
    cases mem_addDepMissing_inv _ _ p hp with
    | inr hd =>
      obtain ⟨m, hm, rfl⟩ := hd
      obtain ⟨f, hf, hv, rfl⟩ := mem_depMissing.1 hm
      exact Or.inr (Or.inr ⟨f, hf, hv, rfl⟩)
    | inl hp =>
      split at hp
      · next hcond =>
        cases mem_addUnexpected_inv _ _ p hp with
        | inl h1 => exact Or.inl (runFields_sound hnf true kvs p h1)
        | inr h1 =>
          have hap : ap = false := by
            simp only [Bool.and_eq_true, Bool.not_eq_true'] at hcond; exact hcond.2
          exact Or.inr (Or.inl ⟨hap, h1⟩)
      · exact Or.inl (runFields_sound hnf true kvs p hp)
  · intro fm hfm e' hv
    have hmem := runFields_complete hnf ha true kvs hc fm hfm e' hv
    refine mem_addDepMissing_of_mem _ _ _ ?_ fun m hm heq => ?_
    · split
      · exact mem_addUnexpected_of_mem _ _ _ hmem fun k hk' heq =>
          mem_unexpectedKeys hk' (Key.name.inj heq ▸ alias_mem_aliasesM hfm)
      · exact hmem
    · have := (hdepkey m hm).2 fm hfm (Key.name.inj heq)
      rw [hv] at this; cases this
  · intro hap k hk'
    simp only [Err.children]
    have hne : unexpectedKeys (aliasesM fs) kvs ≠ [] := fun h0 => by rw [h0] at hk'; cases hk'
    have hlen : kvs.length ≠ (runFields true fs kvs).count := by
      rw [hcount]; intro heq; exact hne ((count_eq_iff hk ha).1 heq)
    have hcond : (kvs.length != (runFields true fs kvs).count && !ap) = true := by
      simp [hap, hlen]
    rw [if_pos hcond]
    exact mem_addDepMissing_of_mem _ _ _ (mem_addUnexpected_key _ _ k (Or.inl hk')) fun m hm heq =>
      mem_unexpectedKeys hk' (Key.name.inj heq ▸ (hdepkey m hm).1)
  · intro f hf hv
    simp only [Err.children]
    have hn : ((depMissing (infosM fs) kvs).map (·.1)).Nodup :=
      (depMissing_keys_sublist (infosM fs) kvs).nodup (aliasesM_eq_infosM fs ▸ ha)
    exact mem_addDepMissing_key _ _ (f.alias, requiringPresent f kvs) (mem_depMissing.2 ⟨f, hf, hv, rfl⟩) hn

end Api
